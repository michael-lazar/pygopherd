import PygVerif.Lemmas.TalBasics
import PygVerif.Lemmas.TalSem
/-!
# Lemmas/TalRefine — the stack machine run on a compiled template produces the tree semantics

For every template tree, from the first command of a node's code the machine reaches the
command after it having appended exactly `denote`'s output and changed the context exactly as
`denote` does, with every register and the scope stack as they were.

An element's registers are written in the order of `Regs`' fields, `Regs.mk mf mb ot orig cur rv tc ld`: forward and
backward jump, output-tag flag, original and current attributes, remaining repeat items, replacement content,
locals-defined flag.
-/
namespace Pyg.Tal

variable {py : Str → Val} {P : List Cmd}

theorem step_output {pc : Nat} {t : Str} (h : P[pc]? = some (.output t)) {regs rac stack ctx out} :
    step py P ⟨pc, regs, rac, stack, ctx, out⟩ = some ⟨pc + 1, regs, rac, stack, ctx, out ++ t⟩ := by
  simp [step, h]

theorem step_startScope {pc : Nat} {orig atts} (h : P[pc]? = some (.startScope orig atts)) {regs rac stack ctx out} :
    step py P ⟨pc, regs, rac, stack, ctx, out⟩ =
      some ⟨pc + 1, Regs.mk none none true orig atts none none false, rac, .scope regs :: stack, ctx, out⟩ := by
  simp [step, h]

/-- the output after `cmdEndTagEndScope`: the replacement content, then the end tag unless it is suppressed -/
def endOut (out tag : Str) (sg ne ot : Bool) (tc : Option (Bool × Val)) : Str :=
  if ot && !ne && !(sg && tc.isNone) then out ++ contentText tc ++ lit "</" ++ tag ++ [62] else out ++ contentText tc

theorem endOut_eq (out tag : Str) (sg ne ot : Bool) (tc : Option (Bool × Val)) :
    endOut out tag sg ne ot tc =
      out ++ contentText tc ++ (if ot && !ne && !(sg && tc.isNone) then lit "</" ++ tag ++ [62] else []) := by
  unfold endOut; split <;> simp

theorem step_endTag_pop {pc : Nat} {tag : Str} {ne sg : Bool} (h : P[pc]? = some (.endTag tag ne sg))
    {orig cur mf ot rv tc ld} {R : Regs} {rac stack ctx out} :
    step py P ⟨pc, Regs.mk mf none ot orig cur rv tc ld, rac, .scope R :: stack, ctx, out⟩ =
      some ⟨pc + 1, R, rac, stack, if ld then ctx.popLocals else ctx, endOut out tag sg ne ot tc⟩ := by
  simp only [step, h, endOut]

theorem step_endTag_back {pc : Nat} {tag : Str} {ne sg : Bool} (h : P[pc]? = some (.endTag tag ne sg))
    {orig cur mf back ot rv tc ld} {rac stack ctx out} :
    step py P ⟨pc, Regs.mk mf (some back) ot orig cur rv tc ld, rac, stack, ctx, out⟩ =
      some ⟨back, Regs.mk mf (some back) ot orig cur rv tc ld, rac, stack, ctx, endOut out tag sg ne ot tc⟩ := by
  simp [step, h, endOut]

theorem step_startTag {pc : Nat} {tag : Str} {sg : Bool} (h : P[pc]? = some (.startTag tag sg))
    {orig cur mf mb ot rv tc ld} {rac stack ctx out} :
    step py P ⟨pc, Regs.mk mf mb ot orig cur rv tc ld, rac, stack, ctx, out⟩ =
      some ⟨mf.getD (pc + 1), Regs.mk mf mb ot orig cur rv tc ld, rac, stack, ctx,
        out ++ (if ot then tagAsText tag cur (sg && tc.isNone) else [])⟩ := by
  simp only [step, h]
  cases mf <;> cases ot <;> simp

theorem step_rep_next {pc : Nat} {v e : Str} {endIx : Nat} (h : P[pc]? = some (.rep v e endIx))
    {orig cur mf mb ot x xs tc ld} {rac stack ctx out} :
    step py P ⟨pc, Regs.mk mf mb ot orig cur (some (x :: xs)) tc ld, rac, stack, ctx, out⟩ =
      some ⟨pc + 1, Regs.mk none mb true orig rac (some xs) none ld, rac, stack, (ctx.bumpRepeat v).setLocal v x, out⟩ := by
  simp [step, h]

theorem step_rep_done {pc : Nat} {v e : Str} {endIx : Nat} (h : P[pc]? = some (.rep v e endIx))
    {orig cur mf mb ot tc ld} {rac a stack ctx out} :
    step py P ⟨pc, Regs.mk mf mb ot orig cur (some []) tc ld, rac, .attrsCopy a :: stack, ctx, out⟩ =
      some ⟨endIx, Regs.mk none none false orig rac none none ld, a, stack, ctx.removeRepeat.popLocals, out⟩ := by
  simp [step, h]

/-! ### an element, part by part: each lemma is about the commands it runs, wherever they sit -/

section element
variable {tag : Str} {atts orig : List (Str × Str)} {c : Cmds} {sg ne : Bool} {pc e : Nat}

/-- from `pc` to `e` the machine does what `sem` does and leaves all else unchanged (`run_node` and `run_list` say this
    of a node's and a list's code, spelled out) -/
def Runs (py : Str → Val) (P : List Cmd) (pc e : Nat) (sem : Ctx → Str × Ctx) : Prop :=
  ∀ regs rac stack ctx out, Reach py P ⟨pc, regs, rac, stack, ctx, out⟩ ⟨e, regs, rac, stack, (sem ctx).2, out ++ (sem ctx).1⟩

/-- started at `pc` with the registers of an element whose head has run so far (no forward jump, tag to be written,
    attributes as in the template, no replacement content), the machine reaches the element's end tag at `e` having
    done what `body` does: it has `body`'s context and, once the end tag has written its part (`endOut`, from the
    registers `ot` and `tc`), `body`'s output.  The backward jump `mb`, the repeat items `rv` and the locals flag are
    as they were -/
def RunsFrom (py : Str → Val) (P : List Cmd) (tag : Str) (atts orig : List (Str × Str)) (sg ne : Bool) (pc e : Nat)
    (mb : Option Nat) (rv : Option (List Val)) (body : Ctx → Str × Ctx) : Prop :=
  ∀ ld rac stack ctx out, ∃ cur mf ot tc out',
    Reach py P ⟨pc, Regs.mk none mb true orig atts rv none ld, rac, stack, ctx, out⟩
      ⟨e, Regs.mk mf mb ot orig cur rv tc ld, rac, stack, (body ctx).2, out'⟩ ∧
    endOut out' tag sg ne ot tc = out ++ (body ctx).1

theorem phase_define (h : ∀ a, c.define = some a → P[pc]? = some (.define a)) {rac stack ctx out} :
    Reach py P ⟨pc, Regs.mk none none true orig atts none none false, rac, stack, ctx, out⟩
      ⟨pc + optLen c.define, Regs.mk none none true orig atts none none (definePhase py orig c ctx).2, rac, stack,
        (definePhase py orig c ctx).1, out⟩ :=
  .opt c.define (fun h0 => by simp [definePhase, h0, optLen])
    (fun a ha => by simp [step, h a ha, definePhase, ha, optLen])

theorem phase_cond (h : ∀ x, c.condition = some x → P[pc]? = some (.cond x e)) {ld : Bool} {rac stack ctx out} :
    Reach py P ⟨pc, Regs.mk none none true orig atts none none ld, rac, stack, ctx, out⟩
      ⟨if (condPhase py orig c ctx).1 then pc + optLen c.condition else e,
        Regs.mk none none (condPhase py orig c ctx).1 orig atts none none ld, rac, stack, (condPhase py orig c ctx).2, out⟩ :=
  .opt c.condition (fun h0 => by simp [condPhase, h0, optLen])
    (fun x hx => by
      simp only [step, h x hx, condPhase, hx, optLen, Option.isSome_some, if_true]
      split <;> simp [*])

theorem phase_content (h : ∀ x, c.content = some x → P[pc]? = some (.content x.1 x.2.1 x.2.2 e)) {mb rv ld}
    {rac stack ctx out} :
    Reach py P ⟨pc, Regs.mk none mb true orig atts rv none ld, rac, stack, ctx, out⟩
      ⟨pc + optLen c.content, Regs.mk (if (contentPhase py orig c ctx).2.2.2 then some e else none) mb
          (contentPhase py orig c ctx).2.1 orig atts rv (contentPhase py orig c ctx).2.2.1 ld, rac, stack,
        (contentPhase py orig c ctx).1, out⟩ := by
  -- the clauses of `contentPhase` (no command; `nothing`; a value; `default`) are those of `step` at a content command;
  -- `fun_cases` states their conditions about the let-bound context and value, hence `+zetaDelta`
  fun_cases contentPhase py orig c ctx
  case case1 hc => exact .of_eq (by simp [optLen, hc])
  all_goals exact .one (by simp +zetaDelta [step, h _ ‹c.content = _›, optLen, *])

theorem phase_attr (h : ∀ a, c.attributes = some a → P[pc]? = some (.attributes a)) {mf mb ot rv tc ld} {rac stack ctx out} :
    Reach py P ⟨pc, Regs.mk mf mb ot orig atts rv tc ld, rac, stack, ctx, out⟩
      ⟨pc + optLen c.attributes, Regs.mk mf mb ot orig (attrPhase py orig c atts ctx).2 rv tc ld, rac, stack,
        (attrPhase py orig c atts ctx).1, out⟩ :=
  .opt c.attributes (fun h0 => by simp [attrPhase, h0, optLen])
    (fun a ha => by simp [step, h a ha, attrPhase, ha, optLen])

theorem phase_omit (h : ∀ x, c.omitTag = some x → P[pc]? = some (.omitTag x)) {cur mf mb ot rv tc ld} {rac stack ctx out} :
    Reach py P ⟨pc, Regs.mk mf mb ot orig cur rv tc ld, rac, stack, ctx, out⟩
      ⟨pc + optLen c.omitTag, Regs.mk mf mb (omitPhase py orig c ot ctx).2 orig cur rv tc ld, rac, stack,
        (omitPhase py orig c ot ctx).1, out⟩ :=
  .opt c.omitTag (fun h0 => by simp [omitPhase, h0, optLen])
    (fun x hx => by simp [step, h x hx, omitPhase, hx, optLen])

theorem body_to_end {kids : Ctx → Str × Ctx}
    (h : At P pc ((c.content.map fun x => Cmd.content x.1 x.2.1 x.2.2 e).toList ++ ((c.attributes.map Cmd.attributes).toList ++
      ((c.omitTag.map Cmd.omitTag).toList ++ [.startTag tag sg]))))
    (hk : Runs py P (pc + optLen c.content + optLen c.attributes + optLen c.omitTag + 1) e kids) (mb rv) :
    RunsFrom py P tag atts orig sg ne pc e mb rv (bodySem py tag atts orig c sg ne kids) := by
  obtain ⟨hK, h⟩ := h.opt
  obtain ⟨hA, h⟩ := h.opt
  obtain ⟨hO, h⟩ := h.opt
  intro ld rac stack ctx out
  -- `r` ends where the start tag jumps: at `e` if the content replaces the children, else at the first child; the
  -- registers there are `bodySem`'s `cp.2.2.1` (content), `ap.2` (attributes), `op.2` (output the tag?)
  have r : Reach py P ⟨pc, Regs.mk none mb true orig atts rv none ld, rac, stack, ctx, out⟩ _ :=
    (phase_content hK).trans ((phase_attr hA).trans ((phase_omit hO).trans (.one (step_startTag h.cons.1))))
  simp only [bodySem, endOut_eq]
  cases hs : (contentPhase py orig c ctx).2.2.2 with
  | true =>
    simp only [hs, if_true, Option.getD_some] at r ⊢
    exact ⟨_, _, _, _, _, r, by simp only [List.append_assoc, List.nil_append]⟩
  | false =>
    simp only [hs, Bool.false_eq_true, if_false, Option.getD_none] at r ⊢
    exact ⟨_, _, _, _, _, r.trans (hk _ _ _ _ _), by simp only [List.append_assoc]⟩

variable {body : Ctx → Str × Ctx}

/-- the iterations of a repeat: from the command after the repeat command with an item bound and `xs` still to go,
    through the body and the end tag back to the repeat command, which binds the next item or leaves the loop for
    the end tag, which then has nothing to write -/
theorem rep_loop {v ex : Str} (hE : P[e]? = some (.endTag tag ne sg)) (hR : P[pc]? = some (.rep v ex e)) (hb : ∀ mb rv, RunsFrom py P tag atts orig sg ne (pc + 1) e mb rv body)
    (ld : Bool) (rac0 : List (Str × Str)) (stack0 : List Frame) : ∀ (xs : List Val) (ctx : Ctx) (out : Str),
    Reach py P ⟨pc + 1, Regs.mk none (some pc) true orig atts (some xs) none ld, atts, .attrsCopy rac0 :: stack0, ctx, out⟩
      ⟨e, Regs.mk none none false orig atts none none ld, rac0, stack0,
        (repeatSem v body xs (body ctx).2).2.removeRepeat.popLocals,
        out ++ (body ctx).1 ++ (repeatSem v body xs (body ctx).2).1⟩ := by
  intro xs ctx out
  obtain ⟨_, _, _, _, _, r, eo⟩ := hb (some pc) (some xs) ld atts (.attrsCopy rac0 :: stack0) ctx out
  have r := r.trans (.one (step_endTag_back hE))
  rw [eo] at r
  refine r.trans ?_
  match xs with
  | [] => simpa [repeatSem] using Reach.one (py := py) (step_rep_done hR)
  | x :: xs =>
    refine (Reach.one (step_rep_next hR)).trans ?_
    simp only [repeatSem, ← List.append_assoc]
    exact rep_loop hE hR hb ld rac0 stack0 xs _ _

theorem rep_phase (hE : P[e]? = some (.endTag tag ne sg)) (hR : ∀ x, c.repeat_ = some x → P[pc]? = some (.rep x.1 x.2 e))
    (hb : ∀ mb rv, RunsFrom py P tag atts orig sg ne (pc + optLen c.repeat_) e mb rv body) :
    RunsFrom py P tag atts orig sg ne pc e none none (repeatPhase py orig c body) := by
  intro ld rac stack ctx out
  cases hr : c.repeat_ with
  | none =>
    rw [hr] at hb
    rw [repeatPhase_none py orig _ ctx hr]
    exact hb none none ld rac stack ctx out
  | some ve =>
    have hRep := hR ve hr
    obtain ⟨v, x⟩ := ve
    rw [hr] at hb
    cases hd : isDefault (eval py { ctx with attrs := orig } x) with
    | true =>
      rw [repeatPhase_default py orig _ ctx hr hd]
      obtain ⟨_, _, _, _, _, r, eo⟩ := hb none none ld rac stack { ctx with attrs := orig } out
      exact ⟨_, _, _, _, _, .trans (.one (by simp [step, hRep, hd, optLen])) r, eo⟩
    | false =>
      by_cases hs : ∃ y ys, seqItems (eval py { ctx with attrs := orig } x) = some (y :: ys)
      · obtain ⟨y, ys, hs⟩ := hs
        rw [repeatPhase_loop py orig _ ctx hr hd hs]
        refine ⟨_, _, false, none, _, .trans (.one ?_) (rep_loop hE hRep hb ld rac stack ys _ out), by simp [endOut, contentText]⟩
        simp [step, hRep, hd, hs]
      · have hs' : ∀ y ys, seqItems (eval py { ctx with attrs := orig } x) ≠ some (y :: ys) := fun y ys h => hs ⟨y, ys, h⟩
        rw [repeatPhase_skip py orig _ ctx hr hd hs']
        exact ⟨atts, none, false, none, out, .one (by simp [step, hRep, hd]), by simp [endOut, contentText]⟩

theorem elem_run {b : Nat} {kids : List Node} (hE : P[e]? = some (.endTag tag ne sg))
    (h : At P b (headCmds tag atts orig c sg e)) (hk : Runs py P (b + headLen c) e (denoteList py kids)) :
    Runs py P b (e + 1) (denote py (.elem tag atts orig c sg ne kids)) := by
  intro regs rac stack ctx out
  rw [headCmds_eq] at h
  obtain ⟨hS, h⟩ := h.cons
  obtain ⟨hD, h⟩ := h.opt
  obtain ⟨hC, h⟩ := h.opt
  obtain ⟨hR, h⟩ := h.opt
  -- `b + headLen c` as the running sum `b + 1 + optLen c.define + … + 1`, as `body_to_end` names the children's start
  simp only [headLen, ← Nat.add_assoc] at hk
  refine (Reach.one (step_startScope hS)).trans ((phase_define hD).trans ((phase_cond hC).trans ?_))
  simp only [denote]
  cases hc : (condPhase py orig c (definePhase py orig c ctx).1).1 with
  | true =>
    obtain ⟨_, _, _, _, _, r, eo⟩ := rep_phase hE hR (body_to_end h hk) (definePhase py orig c ctx).2 rac (.scope regs :: stack)
      (condPhase py orig c (definePhase py orig c ctx).1).2 out
    exact eo ▸ r.trans (.one (step_endTag_pop hE))
  | false => simpa [endOut, contentText] using Reach.one (step_endTag_pop (py := py) (ot := false) (tc := none) hE)

end element

mutual
/-- **Node.** From the first command of a node's code the machine reaches the command after
    it, having appended `denote`'s output and updated the context as `denote` does; registers,
    attribute copy and scope stack are as before. -/
theorem run_node : ∀ (n : Node) (b : Nat), At P b (compile b n) → ∀ (regs : Regs) (rac stack ctx out),
    Reach py P ⟨b, regs, rac, stack, ctx, out⟩
      ⟨b + size n, regs, rac, stack, (denote py n ctx).2, out ++ (denote py n ctx).1⟩
  | .data s, b, hAt, regs, rac, stack, ctx, out => .one (step_output hAt.cons.1)
  | .elem tag atts orig c sg ne kids, b, hAt, regs, rac, stack, ctx, out => by
    obtain ⟨hH, hK, hE⟩ := hAt.elem
    simp only [size, ← Nat.add_assoc]
    exact elem_run hE hH (run_list kids _ hK) regs rac stack ctx out
theorem run_list : ∀ (ns : List Node) (b : Nat), At P b (compileList b ns) → ∀ (regs : Regs) (rac stack ctx out),
    Reach py P ⟨b, regs, rac, stack, ctx, out⟩
      ⟨b + sizeList ns, regs, rac, stack, (denoteList py ns ctx).2, out ++ (denoteList py ns ctx).1⟩
  | [], b, _, regs, rac, stack, ctx, out => .of_eq (by simp [sizeList, denoteList])
  | n :: ns, b, hAt, regs, rac, stack, ctx, out => by
    have hAt2 := hAt.sub_right
    rw [length_compile] at hAt2
    simpa [sizeList, denoteList, Nat.add_assoc, List.append_assoc] using
      (run_node n b hAt.sub_left regs rac stack ctx out).trans (run_list ns (b + size n) hAt2 regs rac stack _ _)
end

/-- **Refinement, for every amount of fuel.** Beyond some amount the stack machine, run on the compiled
    template, halts with exactly the output and the context `denoteList` prescribes; and whatever amount
    lets it halt, that is its result. -/
theorem expand_denote (py : Str → Val) (t : List Node) (ctx : Ctx) :
    (∃ k, ∀ fuel, k ≤ fuel → expand py fuel t ctx = some (denoteList py t ctx)) ∧
    ∀ fuel r, expand py fuel t ctx = some r → r = denoteList py t ctx := by
  obtain ⟨k, hk⟩ := run_list (py := py) t 0 (At.whole (compileList 0 t)) {} [] [] ctx []
  have hs := exec_of_steps k _ _ hk (by simp [length_compileList])
  simp only [expand, hs]
  refine ⟨⟨k, fun fuel hf => by simp [hf]⟩, fun fuel r h => ?_⟩
  split at h <;> simp at h
  exact h.symm

/-- **Refinement.** For every template (in normal form) and every context there is an amount
    of fuel with which the stack machine, run on the compiled template, halts with exactly the
    output and the context the tree-walking semantics `denoteList` prescribes. -/
theorem run_refines_denote (py : Str → Val) (t : List Node) (ctx : Ctx) :
    ∃ fuel, expand py fuel t ctx = some (denoteList py t ctx) :=
  let ⟨⟨k, h⟩, _⟩ := expand_denote py t ctx
  ⟨k, h k (Nat.le_refl k)⟩

end Pyg.Tal
