import PygVerif.Lemmas.SiteCongr
/-!
# Lemmas/SiteGood — the site functions only ask about well-formed paths

`Good p`: an absolute path made of one or more proper components (`/a/b/c`: no empty component,
no `.`, no `..`, no trailing slash) — `Abs` of `Lemmas/SiteCongr` for the strictest component predicate.
So the set is closed under what the site functions do to a path, and they agree on views that agree on
good paths — which is all a view with its own path syntax (an archive, which knows neither empty
components nor `.`) can promise.
-/
namespace Pyg

def Good (p : Str) : Prop :=
  p.head? = some 47 ∧ p.getLast? ≠ some 47 ∧ ∀ c ∈ (splitOn 47 p).tail, c ≠ [] ∧ c ≠ [46] ∧ c ≠ [46, 46]

def AgreeG (st st' : StatFn) : Prop := ∀ p, Good p → st p = st' p

def Plain (c : Str) : Prop := c ≠ [] ∧ c ≠ [46] ∧ c ≠ [46, 46]

theorem onlyDots_plain : OnlyDots Plain := fun _ a b c => ⟨a, b, c⟩

theorem comps_plain {r : Str} (h : Comps Plain r) : r ≠ [] ∧ r.getLast? ≠ some 47 := by
  have hnil : ¬ Comps Plain [] := fun h => (h [] List.mem_cons_self).1 rfl
  refine ⟨fun e => hnil (e ▸ h), fun hl => ?_⟩
  obtain ⟨ys, rfl⟩ := List.getLast?_eq_some_iff.mp hl
  exact hnil ((comps_append_sep ys []).mp h).2

/-- the trailing-slash clause of `Good` says nothing new (`comps_plain`) -/
theorem good_iff_abs (p : Str) : Good p ↔ Abs Plain p := by
  constructor
  · intro ⟨hh, _, hc⟩
    cases p with
    | nil => cases hh
    | cons x r => cases hh; exact ⟨r, rfl, fun c h => hc c (by rwa [splitOn_cons_sep])⟩
  · rintro ⟨r, rfl, hr⟩
    refine ⟨rfl, ?_, fun c h => hr c (by rwa [splitOn_cons_sep] at h)⟩
    cases r with
    | nil => exact absurd rfl (comps_plain hr).1
    | cons x t => rw [List.getLast?_cons_cons]; exact (comps_plain hr).2

theorem good_eq_abs : Good = Abs Plain := funext fun p => propext (good_iff_abs p)

theorem good_head {p : Str} (h : Good p) : p.head? = some 47 := h.1

theorem good_member {p n : Str} (hp : Good p) (hn : Proper n) : Good (p ++ 47 :: n) := by
  rw [good_eq_abs] at hp ⊢
  exact abs_member hp (onlyDots_plain.proper hn)

theorem good_extend {p e : Str} (hp : Good p) (he : ExtOk e) : Good (p ++ e) := by
  rw [good_eq_abs] at hp ⊢
  exact abs_extend onlyDots_plain hp he

theorem stripSlash_good {p : Str} (h : Good p) : stripSlash p = p := if_neg h.2.1

theorem good_ne_nil {p : Str} (h : Good p) : p ≠ [] := by
  rintro rfl; cases h.1

theorem good_ne_root {p : Str} (h : Good p) : p ≠ [47] := by
  rintro rfl; exact h.2.1 rfl

theorem AgreeG.abs {st st' : StatFn} (h : AgreeG st st') : AgreeOn (Abs Plain) st st' :=
  fun p hp => h p ((good_iff_abs p).mpr hp)

/-- the root is not a good path, so no view is asked what it holds there -/
theorem good_root {st : StatFn} (hr : Abs Plain [47]) : ∀ n, st [47] = some n → n.isDir = true :=
  absurd rfl (good_ne_root ((good_iff_abs _).mpr hr))

theorem good_members {sel n : Str} (hs : Good sel) (hn : validName n = true) :
    Abs Plain (sel ++ [47] ++ n) ∧ Abs Plain (sel ++ lit "/.cap/" ++ n) := by
  simpa only [good_ne_root hs, if_false] using abs_members onlyDots_plain ((good_iff_abs sel).mp hs) hn

theorem dispatchG {st st' : StatFn} (h : AgreeG st st') (c : SiteCfg) (sel : Str) (hs : Good sel) :
    dispatch c st sel = dispatch c st' sel :=
  dispatch_agree onlyDots_plain h.abs c fun _ => (good_iff_abs sel).mp hs

theorem entryAtG {st st' : StatFn} (h : AgreeG st st') (c : SiteCfg) (hext : ∀ e ∈ c.eaexts, ExtOk e.1)
    (sel : Str) (hs : Good sel) : entryAt c st sel = entryAt c st' sel :=
  entryAt_agree onlyDots_plain h.abs c hext good_root ((good_iff_abs sel).mp hs)

theorem childOfG {st st' : StatFn} (h : AgreeG st st') (c : SiteCfg) (hext : ∀ e ∈ c.eaexts, ExtOk e.1)
    (base n : Str) (k : Node) (hb : Good base) (hn : validName n = true) :
    childOf c st base n k = childOf c st' base n k :=
  childOf_agree onlyDots_plain h.abs c hext good_root base n k (good_members hb hn).1 (good_members hb hn).2

/-- **Directory listings (`DirHandler` / `UMNDirHandler`, not gophermaps) agree on views that agree on good paths**,
    if the directories of the first view hold valid names only (`hnames`). -/
theorem dirEntriesG {st st' : StatFn} (h : AgreeG st st') (c : SiteCfg) (hext : ∀ e ∈ c.eaexts, ExtOk e.1)
    (hnames : ∀ p ks, st p = some (.dir ks) → ∀ nk ∈ ks, validName nk.1 = true)
    (sel : Str) (hs : Good sel) (hd : dispatch c st sel = .dir) : siteEntries c st sel = siteEntries c st' sel :=
  siteEntries_agree onlyDots_plain h.abs c hext good_root (fun _ => (good_iff_abs sel).mp hs) (hnames sel) (absurd hd)

theorem serveG {st st' : StatFn} (h : AgreeG st st') (c : SiteCfg) (sel : Str) (hs : Good sel) :
    serve c st sel = serve c st' sel :=
  serve_agree onlyDots_plain h.abs c fun _ => (good_iff_abs sel).mp hs

end Pyg
