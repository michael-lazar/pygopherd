import PygVerif.Model.Umn
import PygVerif.Lemmas.Str
/-!
# Lemmas/EntryFrame — what the entry-updating functions leave alone

A function of the model that takes an entry and hands back a changed one is given as one record equation: the
entry it got, with the fields it may change.  That a field survives is then read off.  (`populate` may change
most fields; it is given by the four it keeps.)
-/
namespace Pyg

theorem foldl_ea_frame {κ : Type} (step : Entry → κ → Entry) (hstep : ∀ e k, ∃ ea', step e k = { e with ea := ea' })
    (l : List κ) (e : Entry) : ∃ ea', l.foldl step e = { e with ea := ea' } :=
  List.foldlRecOn (motive := fun b => ∃ ea', b = { e with ea := ea' }) l step ⟨e.ea, rfl⟩
    fun _ ⟨_, h⟩ k _ => h ▸ hstep _ k

theorem handleEaExt_frame (eaexts : List (Str × Str)) (read : Str → Option (List Str)) (e : Entry) :
    ∃ ea', handleEaExt eaexts read e = { e with ea := ea' } := by
  refine foldl_ea_frame _ (fun e kv => ?_) eaexts e
  simp only
  split
  · exact ⟨e.ea, rfl⟩
  · split <;> exact ⟨_, rfl⟩

/-- population from the file system never touches what names the object: selector, host, port, number -/
theorem populate_frame (eaexts : List (Str × Str)) (dm : Str) (st : Option StatRes) (guess : Option Str × Option Str)
    (typeOf : Str → Str) (read : Str → Option (List Str)) (e : Entry) :
    (populate eaexts dm st guess typeOf read e).selector = e.selector ∧
    (populate eaexts dm st guess typeOf read e).host = e.host ∧
    (populate eaexts dm st guess typeOf read e).port = e.port ∧
    (populate eaexts dm st guess typeOf read e).num = e.num := by
  have hea : ∀ e', (handleEaExt eaexts read e').selector = e'.selector ∧ (handleEaExt eaexts read e').host = e'.host ∧
      (handleEaExt eaexts read e').port = e'.port ∧ (handleEaExt eaexts read e').num = e'.num := fun e' => by
    obtain ⟨ea', h⟩ := handleEaExt_frame eaexts read e'
    rw [h]; exact ⟨rfl, rfl, rfl, rfl⟩
  -- in every branch the result is a chain of record updates around `e` or around `handleEaExt … e1`, so the four
  -- fields are read off by computation (`split` on a term of this size is slow; `fun_cases` is not)
  fun_cases populate eaexts dm st guess typeOf read e
  case case4 => exact hea _
  case case5 s e1 _ e2 e3 e4 e5 =>
    -- the encoding taken apart, so that the `match` and the `if` on it compute
    obtain ⟨m, _ | _ | ⟨c, enc⟩⟩ := guess <;> exact hea e1
  all_goals exact ⟨rfl, rfl, rfl, rfl⟩

theorem populateWith_frame (eaexts : List (Str × Str)) (dm : Str) (pi : PopInfo) (e : Entry) :
    (populateWith eaexts dm pi e).selector = e.selector ∧ (populateWith eaexts dm pi e).host = e.host ∧
    (populateWith eaexts dm pi e).port = e.port ∧ (populateWith eaexts dm pi e).num = e.num :=
  populate_frame ..

theorem populateWith_file_size (ea : List (Str × Str)) (dm : Str) (pi : PopInfo) (e : Entry)
    (hp : e.populated = false) (hh : e.host = none) (hpo : e.port = none) (hs : e.size = none)
    (hk : pi.stat.kind ≠ .dir) : (populateWith ea dm pi e).size = some pi.stat.size := by
  have hk' : (pi.stat.kind == Kind.dir) = false := by simpa using hk
  simp only [populateWith, populate, hp, hh, hpo, hk', Bool.false_eq_true, if_false, Option.isNone_none, Bool.and_self,
    Bool.not_true]
  obtain ⟨ea', h⟩ := handleEaExt_frame ea (fun ext => (pi.sidecars.find? (·.1 == ext)).map (·.2)) _
  rw [h]
  split
  · split <;> simp [hs, orNat]
  · simp [hs, orNat]

theorem gplusFix_frame (e : Entry) : ∃ m, gplusFix e = { e with mimetype := m } := by
  unfold gplusFix; split <;> exact ⟨_, rfl⟩

theorem gopher0Line_mimetype (srv : ServerId) (e : Entry) (m : Option Str) :
    gopher0Line srv { e with mimetype := m } = gopher0Line srv e := rfl

theorem gplusFix_idem (e : Entry) : gplusFix (gplusFix e) = gplusFix e := by
  have hne : ((some (lit "application/gopher+-menu") : Option Str) == some (lit "application/gopher-menu")) = false := by
    rw [lit_ofList, lit_ofList]; decide
  unfold gplusFix
  split
  · simp only [hne, Bool.false_and, Bool.false_eq_true, if_false]
  · simp only [*]

theorem gplusBlocks_fix (srv : ServerId) (admin : Str) (md : Option Str) (e : Entry) :
    gplusBlocks srv admin md (gplusFix e) = gplusBlocks srv admin md e := by
  unfold gplusBlocks; rw [gplusFix_idem]

end Pyg
