import PygVerif.Model.Skel
import PygVerif.Lemmas.Doc
/-!
# Lemmas/Skel — the skeleton of a page whose slots are all safe depends only on its shape

A segment contributes a text (`Seg.text`) which is its literal or inert data (`Seg.text_of_shape`); on a page
whose data slots are all outside tag position the tokenizer does what it does on the literals alone
(`run_emit`, with `skel` the run over the shape).  Skeleton invariance and the end state are its two halves.
-/
namespace Pyg

theorem run_append (st : TState) (a b : Str) :
    run st (a ++ b) = ((run (run st a).1 b).1, (run st a).2 ++ (run (run st a).1 b).2) := by
  induction a generalizing st with
  | nil => simp [run]
  | cons c cs ih =>
    simp only [List.cons_append, run]
    rw [ih]
    simp [List.append_assoc]

def inert (d : Str) : Prop := ∀ c ∈ d, htmlMeta c = false

/-- decided through `List.all`, which the kernel evaluates faster than the bounded quantifier -/
instance (d : Str) : Decidable (inert d) :=
  decidable_of_iff (d.all (fun c => !htmlMeta c) = true) (by simp [inert])

/-- outside a tag each state watches for one character only, and that one is a meta character -/
theorem tstep_inert {st : TState} {c : Nat} (hst : st ≠ .tag) (hc : htmlMeta c = false) :
    tstep st c = (st, []) := by
  obtain ⟨h60, -, h34, h39⟩ := htmlMeta_eq_false_iff.mp hc
  cases st
  · exact if_neg h60
  · exact absurd rfl hst
  · exact if_neg h34
  · exact if_neg h39

theorem run_inert (st : TState) (hst : st ≠ .tag) (d : Str) (hd : inert d) : run st d = (st, []) := by
  induction d with
  | nil => rfl
  | cons c cs ih =>
    obtain ⟨hc, hd⟩ := List.forall_mem_cons.mp hd
    simp only [run, tstep_inert hst hc, ih hd, List.append_nil]

theorem escape_inert (d : Str) : inert (htmlEscape true d) := htmlEscape_no_meta d

theorem toDec_inert (n : Nat) : inert (toDec n) := by
  intro c hc
  have := toDec_digits n c hc
  rw [htmlMeta_eq_false_iff]; omega

def Seg.text : Seg → Str
  | .lit s => s
  | .esc d => htmlEscape true d
  | .num n => toDec n

theorem emit_cons (s : Seg) (r : List Seg) : emit (s :: r) = s.text ++ emit r := by cases s <;> rfl

theorem emit_append (a b : List Seg) : emit (a ++ b) = emit a ++ emit b := by
  induction a with
  | nil => rfl
  | cons s r ih => rw [List.cons_append, emit_cons, emit_cons, ih, List.append_assoc]

theorem Seg.text_of_shape (s : Seg) : s.shape = .lit s.text ∨ s.shape = .data ∧ inert s.text := by
  cases s
  · exact .inl rfl
  · exact .inr ⟨rfl, escape_inert _⟩
  · exact .inr ⟨rfl, toDec_inert _⟩

def skel : TState → List SegShape → TState × List Nat
  | st, [] => (st, [])
  | st, .lit s :: r => ((skel (run st s).1 r).1, (run st s).2 ++ (skel (run st s).1 r).2)
  | st, .data :: r => skel st r

theorem run_emit (a : List Seg) (st : TState) (hok : slotsOk st (a.map Seg.shape) = true) :
    run st (emit a) = skel st (a.map Seg.shape) := by
  induction a generalizing st with
  | nil => rfl
  | cons s r ih =>
    rw [emit_cons, run_append, List.map_cons]
    rw [List.map_cons] at hok
    rcases s.text_of_shape with hs | ⟨hs, ht⟩ <;> rw [hs] at hok ⊢
    · rw [skel, ih _ hok]
    · simp only [slotsOk, Bool.and_eq_true, bne_iff_ne, ne_eq] at hok
      rw [run_inert st hok.1 _ ht, skel, ih _ hok.2, List.nil_append]

theorem skel_fst (st : TState) (sh : List SegShape) : (skel st sh).1 = endState st sh := by
  induction sh generalizing st with
  | nil => rfl
  | cons s r ih => cases s <;> simp only [skel, endState, ih]

/-- **Skeleton invariance.** Two pages of the same shape (same literals, data slots in the same
    places) whose slots are all outside tag position have the same skeleton and end in the
    same tokenizer state — whatever the data. -/
theorem skeleton_of_shape (a : List Seg) : ∀ (b : List Seg) (st : TState),
    a.map Seg.shape = b.map Seg.shape → slotsOk st (a.map Seg.shape) = true →
    run st (emit a) = run st (emit b) := by
  intro b st hs hok
  rw [run_emit a st hok, run_emit b st (hs ▸ hok), hs]

theorem run_endState (a : List Seg) (st : TState) (hok : slotsOk st (a.map Seg.shape) = true) :
    (run st (emit a)).1 = endState st (a.map Seg.shape) := by
  rw [run_emit a st hok, skel_fst]

theorem slotsOk_append (a b : List SegShape) (st : TState) :
    slotsOk st (a ++ b) = (slotsOk st a && slotsOk (endState st a) b) := by
  induction a generalizing st with
  | nil => simp [slotsOk, endState]
  | cons s r ih =>
    cases s with
    | lit x => simp [slotsOk, endState, ih]
    | data => simp [slotsOk, endState, ih, Bool.and_assoc]

theorem endState_append (a b : List SegShape) (st : TState) :
    endState st (a ++ b) = endState (endState st a) b := by
  induction a generalizing st with
  | nil => simp [endState]
  | cons s r ih => cases s <;> simp [endState, ih]

/-- An inert literal may stand wherever a data slot may: outside tag position the tokenizer passes
    over it without a change of state. -/
theorem lit_inert_as_data {d : Str} (hd : inert d) (a b : List SegShape) (st : TState)
    (h : slotsOk st (a ++ .data :: b) = true) :
    slotsOk st (a ++ .lit d :: b) = true ∧ endState st (a ++ .lit d :: b) = endState st (a ++ .data :: b) := by
  rw [slotsOk_append, slotsOk, Bool.and_eq_true, Bool.and_eq_true, bne_iff_ne] at h
  rw [slotsOk_append, endState_append, endState_append, slotsOk, endState, endState, run_inert _ h.2.1 d hd,
    h.1, h.2.2]
  exact ⟨rfl, rfl⟩

end Pyg
