import PygVerif.Lemmas.SiteGood
import PygVerif.Lemmas.ZipTree
/-!
# Lemmas/ZipSite — the archive's view and the extracted tree's view agree on good paths
-/
namespace Pyg.Zip

/-- `VFS_Real.stat` below a root, without `os.fsencode`'s refusal of unencodable selectors -/
def treeStat (R : Node) : StatFn := fun sel => lwalk R (selComps sel)

theorem lwalk_append : ∀ (xs ys : List Str) (n : Node), lwalk n (xs ++ ys) = (lwalk n xs).bind (fun m => lwalk m ys) := by
  intro xs ys n
  fun_induction lwalk n xs with
  | case1 => rfl
  | case2 kids c cs h ih => rw [List.cons_append, lwalk, if_pos h, ih]
  | case3 kids c cs h k hk ih => rw [List.cons_append, lwalk, if_neg h, hk]; exact ih
  | case4 kids c cs h hk => rw [List.cons_append, lwalk, if_neg h, hk]; rfl
  | case5 => rfl
  | case6 => rfl

theorem rest_of_good (Z rest : Str) (hp : Good (Z ++ 47 :: rest)) : Comps Plain rest := by
  obtain ⟨r, e, hr⟩ := (good_iff_abs _).mp hp
  cases Z with
  | nil => cases e; exact hr
  | cons x z => cases e; exact ((comps_append_sep z rest).mp hr).2

theorem inArchive_iff {Z p : Str} : inArchive Z p = true ↔ p = Z ∨ ∃ rest, p = Z ++ 47 :: rest := by
  simp only [inArchive, Bool.or_eq_true, beq_iff_eq, isPrefixB_iff]
  exact or_congr .rfl ⟨fun ⟨r, h⟩ => ⟨r, by simp [← h]⟩, fun ⟨r, h⟩ => ⟨r, by simp [h]⟩⟩

theorem innerPath_below (Z rest : Str) (h2 : rest.getLast? ≠ some 47) :
    innerPath Z.length (Z ++ 47 :: rest) = rest := by
  unfold innerPath
  simp [h2]

theorem innerPath_self (Z : Str) : innerPath Z.length Z = [] := by
  unfold innerPath; simp

/-- **The archive's view is the extracted tree's view.**  `T = toTree ix data F []` is the
    tree the archive stands for (`hsat`: unfolding deeper than `F` changes nothing — see
    `Props.C16.toTree_saturates`); `R` is a document root that holds `T` where the archive's selector `Z`
    points; outside the archive the underlying file system is `R` too.  Then `VFSZip`'s view
    and `VFS_Real`'s view of `R` give the same object for every good path. -/
theorem zip_view_agrees (ix : Index) (data : Str → Bytes) (F : Nat)
    (hsat : ∀ f t, F ≤ f → toTree ix data f t = toTree ix data F t)
    (Z : Str) (hZ : Good Z) (R : Node) (hR : lwalk R (splitOn 47 Z) = some (toTree ix data F []))
    (chain : StatFn) (hout : ∀ p, Good p → inArchive Z p = false → chain p = treeStat R p) :
    AgreeG (zipStat ix data F Z chain) (treeStat R) := by
  intro p hp
  have ht : treeStat R p = lwalk R (splitOn 47 p) := by unfold treeStat selComps; rw [stripSlash_good hp]
  unfold zipStat
  cases hin : inArchive Z p with
  | false => rw [if_neg nofun]; exact hout p hp hin
  | true =>
    rw [if_pos rfl, ht]
    rcases inArchive_iff.mp hin with rfl | ⟨rest, rfl⟩
    · rw [innerPath_self, hR]; rfl
    · have h := rest_of_good Z rest hp
      rw [innerPath_below Z rest (comps_plain h).2, splitOn_append_sep, lwalk_append, hR, Option.bind_some,
        lookup_of_ne_nil ix (comps_plain h).1, lwalk_toTree_sat ix data hsat _ [] fun c hc => ⟨(h c hc).1, (h c hc).2.1⟩]

end Pyg.Zip
