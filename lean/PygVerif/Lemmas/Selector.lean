import PygVerif.Model.Selector
import PygVerif.Lemmas.Str
/-!
# Lemmas/Selector — the security filter is closed under taking substrings; components of
a secure selector; lexical containment of normalised paths
-/
namespace Pyg

/-- the substring part of the filter: no forbidden substring anywhere -/
def InfixSafe (fb : List Str) (s : Str) : Prop := ∀ f ∈ fb, ¬ f <:+: s

theorem infixOk_iff (fb : List Str) (s : Str) : (fb.all fun f => !isInfixB f s) = true ↔ InfixSafe fb s := by
  simp only [InfixSafe, List.all_eq_true, Bool.not_eq_true', ← Bool.not_eq_true, isInfixB_iff]

theorem infixSafe_infix_closed {fb : List Str} {s t : Str} (hs : InfixSafe fb s) (ht : t <:+: s) :
    InfixSafe fb t := fun f hf hin => hs f hf (hin.trans ht)

theorem secureB_iff (fb : List Str) (s : Str) :
    secureB fb s = true ↔ InfixSafe fb s ∧ isSuffixB [47, 46] s = false := by
  simp only [secureB, Bool.and_eq_true, infixOk_iff, Bool.not_eq_true']

theorem secure_infixSafe {fb : List Str} {s : Str} (hs : secureB fb s = true) : InfixSafe fb s :=
  ((secureB_iff fb s).mp hs).1

theorem secure_no_infix {fb : List Str} {s f : Str} (hs : secureB fb s = true) (hf : f ∈ fb) :
    ¬ f <:+: s := secure_infixSafe hs f hf

theorem secure_not_dot_suffix {fb : List Str} {s : Str} (hs : secureB fb s = true) :
    isSuffixB [47, 46] s = false := ((secureB_iff fb s).mp hs).2

theorem infixSafe_components {fb : List Str} {s : Str} (hs : InfixSafe fb s)
    (hdd : [46,46] ∈ fb) (hnul : [0] ∈ fb) :
    ∀ c ∈ splitOn 47 s, c ≠ [46,46] ∧ 0 ∉ c := by
  intro c hc
  have hci : c <:+: s := (splitOn_infix 47 s).2 c hc
  constructor
  · intro h
    exact hs _ hdd (by rw [← h]; exact hci)
  · intro h0
    exact hs _ hnul ((mem_infix_singleton h0).trans hci)

theorem secure_components {fb : List Str} {s : Str} (hs : secureB fb s = true)
    (hdd : [46,46] ∈ fb) (hnul : [0] ∈ fb) :
    ∀ c ∈ splitOn 47 s, c ≠ [46,46] ∧ 0 ∉ c :=
  infixSafe_components (secure_infixSafe hs) hdd hnul

def plainComp (c : Str) : Bool := !(c == [] || c == [46])

theorem normAux_no_dotdot (acc cs : List Str) (h : ∀ c ∈ cs, c ≠ [46,46]) :
    normAux acc cs = acc.reverse ++ cs.filter plainComp := by
  induction cs generalizing acc with
  | nil => simp [normAux]
  | cons c cs ih =>
    obtain ⟨hc, h⟩ := List.forall_mem_cons.mp h
    rw [normAux, if_neg hc, List.filter_cons, ih _ h, ih _ h]
    by_cases h1 : c = [] ∨ c = [46]
    · rcases h1 with rfl | rfl <;> rfl
    · simp [plainComp, not_or.mp h1]

theorem normAux_append (acc a b : List Str) :
    normAux acc (a ++ b) = normAux (normAux acc a).reverse b := by
  induction a generalizing acc with
  | nil => simp [normAux]
  | cons c cs ih =>
    simp only [List.cons_append, normAux]
    split
    · exact ih acc
    · split
      · exact ih _
      · exact ih _

/-- If the selector part has no `..` component, the normalised
    path of `root ++ selector` is the normalised root followed by the plain components of the
    selector: it never leaves the root. -/
theorem lexical_containment (r cs : List Str) (h : ∀ c ∈ cs, c ≠ [46,46]) :
    norm (r ++ cs) = norm r ++ cs.filter plainComp := by
  unfold norm
  rw [normAux_append, normAux_no_dotdot _ _ h]
  simp

theorem virtualSplit_prefix (s : Str) : (virtualSplit s).1 <+: s := by
  unfold virtualSplit
  split
  · exact takeUntil_prefix _ _
  · split
    · exact takeUntil_prefix _ _
    · exact List.prefix_refl _

theorem slashnormalize_head (s : Str) : (slashnormalize s).head? = some 47 := by
  simp only [slashnormalize]
  split
  · rfl
  · split <;> simp [*]

theorem slashnormalize_fixed (s : Str) (hh : s.head? = some 47) (hl : s.getLast? ≠ some 47 ∨ s = [47]) :
    slashnormalize s = s := by
  unfold slashnormalize
  rcases hl with hl | hl
  · simp only [hl, if_false]
    cases s with
    | nil => simp at hh
    | cons c cs => simp at hh; simp [hh]
  · subst hl; decide

end Pyg
