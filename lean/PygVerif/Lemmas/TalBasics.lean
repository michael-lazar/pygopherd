import PygVerif.Model.Tal
/-!
# Lemmas/TalBasics — machine runs, code layout of a compiled element

`Reach py P s s'`: the machine gets from `s` to `s'` in some number of `steps`; a run that ends at the end of the
program is what `exec` computes, for every amount of fuel (`exec_of_steps`).  `At P b seg`: the commands `seg` stand
in `P` from index `b` on.  Each optional command of an element's head is written `(o.map f).toList`, so that one lemma
(`At.opt`) peels any of them off a located segment; `At.elem` says where head, children and end tag of a compiled
element sit.
-/
namespace Pyg.Tal

variable (py : Str → Val) (P : List Cmd)

def steps : Nat → St → Option St
  | 0, s => some s
  | k + 1, s => match step py P s with
    | some s' => steps k s'
    | none => none

def Reach (s s' : St) : Prop := ∃ k, steps py P k s = some s'

theorem steps_trans : ∀ (k1 k2 : Nat) (s s1 s2 : St),
    steps py P k1 s = some s1 → steps py P k2 s1 = some s2 → steps py P (k1 + k2) s = some s2
  | 0, k2, s, s1, s2, h1, h2 => by cases h1; rwa [Nat.zero_add]
  | k + 1, k2, s, s1, s2, h1, h2 => by
    rw [Nat.add_right_comm]
    simp only [steps] at h1 ⊢
    cases hs : step py P s with
    | none => rw [hs] at h1; cases h1
    | some s' => rw [hs] at h1; exact steps_trans k k2 s' s1 s2 h1 h2

variable {py P}

theorem Reach.refl (s : St) : Reach py P s s := ⟨0, rfl⟩
theorem Reach.trans {a b c : St} (h1 : Reach py P a b) (h2 : Reach py P b c) : Reach py P a c := by
  obtain ⟨k1, h1⟩ := h1; obtain ⟨k2, h2⟩ := h2
  exact ⟨k1 + k2, steps_trans py P k1 k2 a b c h1 h2⟩
theorem Reach.one {a b : St} (h : step py P a = some b) : Reach py P a b := ⟨1, by simp [steps, h]⟩
theorem Reach.of_eq {a b : St} (h : a = b) : Reach py P a b := h ▸ Reach.refl a
theorem Reach.opt {α : Type} (o : Option α) {s t : St} (h0 : o = none → s = t) (h1 : ∀ a, o = some a → step py P s = some t) :
    Reach py P s t :=
  match o with
  | none => .of_eq (h0 rfl)
  | some a => .one (h1 a rfl)

/-- a run of `k` steps that ends at the end of the program is all that `exec` computes: the machine cannot step from
    there, so the run did not pass through it before, and with less fuel than `k` the machine has not halted -/
theorem exec_of_steps : ∀ (k : Nat) (s s' : St), steps py P k s = some s' → s'.pc = P.length →
    ∀ fuel, exec py P fuel s = if k ≤ fuel then some s' else none
  | 0, s, s', h, hl, fuel => by cases h; cases fuel <;> simp [exec, hl]
  | k + 1, s, s', h, hl, fuel => by
    simp only [steps] at h
    have hp : s.pc ≠ P.length := fun hp => by simp [step, hp] at h
    cases hs : step py P s with
    | none => simp [hs] at h
    | some s1 =>
      cases fuel with
      | zero => simp [exec, hp]
      | succ f => simp [exec, hp, hs, exec_of_steps k s1 s' (by simpa [hs] using h) hl f]

theorem segDefine_eq (c : Cmds) : segDefine c = (c.define.map Cmd.define).toList := by
  unfold segDefine; cases c.define <;> rfl
theorem segCond_eq (c : Cmds) (e : Nat) : segCond c e = (c.condition.map (Cmd.cond · e)).toList := by
  unfold segCond; cases c.condition <;> rfl
theorem segRep_eq (c : Cmds) (e : Nat) : segRep c e = (c.repeat_.map fun x => Cmd.rep x.1 x.2 e).toList := by
  unfold segRep; cases c.repeat_ <;> rfl
theorem segCont_eq (c : Cmds) (e : Nat) : segCont c e = (c.content.map fun x => Cmd.content x.1 x.2.1 x.2.2 e).toList := by
  unfold segCont; cases c.content <;> rfl
theorem segAttr_eq (c : Cmds) : segAttr c = (c.attributes.map Cmd.attributes).toList := by
  unfold segAttr; cases c.attributes <;> rfl
theorem segOmit_eq (c : Cmds) : segOmit c = (c.omitTag.map Cmd.omitTag).toList := by
  unfold segOmit; cases c.omitTag <;> rfl

theorem headCmds_eq (tag : Str) (atts orig : List (Str × Str)) (c : Cmds) (sg : Bool) (e : Nat) :
    headCmds tag atts orig c sg e = .startScope orig atts :: ((c.define.map Cmd.define).toList ++
      ((c.condition.map (Cmd.cond · e)).toList ++ ((c.repeat_.map fun x => Cmd.rep x.1 x.2 e).toList ++
      ((c.content.map fun x => Cmd.content x.1 x.2.1 x.2.2 e).toList ++ ((c.attributes.map Cmd.attributes).toList ++
      ((c.omitTag.map Cmd.omitTag).toList ++ [.startTag tag sg])))))) := by
  simp only [headCmds, segDefine_eq, segCond_eq, segRep_eq, segCont_eq, segAttr_eq, segOmit_eq, List.append_assoc,
    List.cons_append, List.nil_append]

theorem length_optSeg {α : Type} (o : Option α) (f : α → Cmd) : (o.map f).toList.length = optLen o := by
  cases o <;> rfl

theorem length_headCmds (tag : Str) (atts orig : List (Str × Str)) (c : Cmds) (sg : Bool) (e : Nat) :
    (headCmds tag atts orig c sg e).length = headLen c := by
  have := congrArg List.length (headCmds_eq tag atts orig c sg e)
  simp only [List.length_cons, List.length_append, length_optSeg, List.length_nil] at this
  rw [this, headLen]; omega

mutual
theorem length_compile : ∀ (b : Nat) (n : Node), (compile b n).length = size n
  | b, .data s => rfl
  | b, .elem tag atts orig c sg ne kids => by
    simp [compile, size, length_headCmds, length_compileList (b + headLen c) kids]; omega
theorem length_compileList : ∀ (b : Nat) (ns : List Node), (compileList b ns).length = sizeList ns
  | b, [] => rfl
  | b, n :: ns => by
    simp [compileList, sizeList, length_compile b n, length_compileList (b + size n) ns]
end

def At (P : List Cmd) (b : Nat) (seg : List Cmd) : Prop :=
  ∃ pre post, P = pre ++ seg ++ post ∧ pre.length = b

theorem At.lookup {P b seg} (h : At P b seg) (i : Nat) (hi : i < seg.length) : P[b + i]? = seg[i]? := by
  obtain ⟨pre, post, rfl, rfl⟩ := h
  rw [List.append_assoc, List.getElem?_append_right (by omega)]
  simp [List.getElem?_append_left hi]

theorem At.sub_left {P b a c} (h : At P b (a ++ c)) : At P b a := by
  obtain ⟨pre, post, rfl, rfl⟩ := h
  exact ⟨pre, c ++ post, by simp, rfl⟩

theorem At.sub_right {P b a c} (h : At P b (a ++ c)) : At P (b + a.length) c := by
  obtain ⟨pre, post, rfl, rfl⟩ := h
  exact ⟨pre ++ a, post, by simp, by simp⟩

theorem At.whole (P : List Cmd) : At P 0 P := ⟨[], [], by simp, rfl⟩

theorem At.cons {P b x l} (h : At P b (x :: l)) : P[b]? = some x ∧ At P (b + 1) l :=
  ⟨h.lookup 0 (Nat.zero_lt_succ _), h.sub_right (a := [x])⟩

theorem At.opt {P b l} {α : Type} {o : Option α} {f : α → Cmd} (h : At P b ((o.map f).toList ++ l)) :
    (∀ a, o = some a → P[b]? = some (f a)) ∧ At P (b + optLen o) l := by
  cases o with
  | none => exact ⟨nofun, h⟩
  | some a => exact ⟨fun _ e => Option.some.inj e ▸ h.cons.1, h.cons.2⟩

/-- a compiled element: its head, its children's code, and its end tag at the index the head's jumps name -/
theorem At.elem {P b tag atts orig c sg ne kids} (h : At P b (compile b (.elem tag atts orig c sg ne kids))) :
    At P b (headCmds tag atts orig c sg (b + headLen c + sizeList kids)) ∧
      At P (b + headLen c) (compileList (b + headLen c) kids) ∧
      P[b + headLen c + sizeList kids]? = some (.endTag tag ne sg) := by
  simp only [compile] at h
  have hk := h.sub_right
  have he := hk.sub_right
  rw [length_headCmds] at hk he
  rw [length_compileList] at he
  exact ⟨h.sub_left, hk.sub_left, he.cons.1⟩

end Pyg.Tal
