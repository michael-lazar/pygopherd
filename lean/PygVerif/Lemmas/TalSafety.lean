import PygVerif.Lemmas.TalSem
/-!
# Lemmas/TalSafety — what data can and cannot do to an expansion

* `Same g` — the part of a context a caller can observe apart from `attrs` (and, unless `g`, apart
  from globals); every element and every list of nodes restores it (`denote_same`).
* `GateEq` — with Python paths disabled the `python:` oracle is never consulted
  (`evalFuel_gate`, lifted through every phase to `denote_gate`).
* `Gen` — outputs generated from the template's own strings and HTML-escaped strings only.
* `ser` — the serialisation of a TAL-free tree; expansion is the identity on it.
-/
namespace Pyg.Tal

mutual
def noGlobalDefine : Node → Bool
  | .data _ => true
  | .elem _ _ _ c _ _ kids => (c.define.getD []).all (·.isLocal) && noGlobalDefineList kids
def noGlobalDefineList : List Node → Bool
  | [] => true
  | n :: ns => noGlobalDefine n && noGlobalDefineList ns
end

/-- what survives a loop iteration: the stacks, the gate and (if `g`) the globals -/
structure Stacks (g : Bool) (a b : Ctx) : Prop where
  localStack : a.localStack = b.localStack
  repeatStack : a.repeatStack = b.repeatStack
  allow : a.allowPython = b.allowPython
  globals : g = true → a.globals = b.globals

structure Same (g : Bool) (a b : Ctx) : Prop where
  locals : a.locals = b.locals
  repeatMap : a.repeatMap = b.repeatMap
  stacks : Stacks g a b

theorem Stacks.trans {g} {a b c : Ctx} (h1 : Stacks g a b) (h2 : Stacks g b c) : Stacks g a c :=
  ⟨h1.localStack.trans h2.localStack, h1.repeatStack.trans h2.repeatStack, h1.allow.trans h2.allow,
    fun hg => (h1.globals hg).trans (h2.globals hg)⟩
theorem Same.trans {g} {a b c : Ctx} (h1 : Same g a b) (h2 : Same g b c) : Same g a c :=
  ⟨h1.locals.trans h2.locals, h1.repeatMap.trans h2.repeatMap, h1.stacks.trans h2.stacks⟩
theorem Same.attrs (g) (a : Ctx) (o : List (Str × Str)) : Same g { a with attrs := o } a := ⟨rfl, rfl, rfl, rfl, rfl, fun _ => rfl⟩

def Pres (g : Bool) (f : Ctx → Str × Ctx) : Prop := ∀ c, Same g (f c).2 c

theorem Same.pop {g} {R c : Ctx} (h : Stacks g R c.pushLocals) (hm : R.repeatMap = c.repeatMap) : Same g R.popLocals c := by
  have hl : R.localStack = c.locals :: c.localStack := h.localStack
  simp only [Ctx.popLocals, hl]
  exact ⟨rfl, hm, rfl, h.repeatStack, h.allow, h.globals⟩

theorem Same.unwind {g} {R c : Ctx} {v n x} (h : Stacks g R (c.addRepeat v n x)) : Same g R.removeRepeat.popLocals c := by
  have hr : R.repeatStack = c.repeatMap :: c.repeatStack := h.repeatStack
  refine Same.pop (R := R.removeRepeat) ?_ ?_ <;> simp only [Ctx.removeRepeat, hr]
  exact ⟨h.localStack, rfl, h.allow, h.globals⟩

/-- what `tal:define` keeps of the context `c0` it started from: all of it as long as no local variable has been
    defined (`found`); from the first one on the locals are pushed and being set -/
def DefInv (g : Bool) (c0 : Ctx) : Bool → Ctx → Prop
  | false, c => Same g c c0
  | true, c => Stacks g c c0.pushLocals ∧ c.repeatMap = c0.repeatMap

theorem DefInv.allow {g c0 found c} (h : DefInv g c0 found c) : c.allowPython = c0.allowPython := by
  cases found
  · exact h.stacks.allow
  · exact h.1.allow

theorem runDefine_inv {g : Bool} (py : Str → Val) (orig : List (Str × Str)) (c0 : Ctx) :
    ∀ (args : List DefineArg) (c : Ctx) (found : Bool), (g = true → args.all (·.isLocal) = true) → DefInv g c0 found c →
    DefInv g c0 (runDefine py orig args c found).2 (runDefine py orig args c found).1
  | [], _, _, _, h => h
  | a :: rest, c, found, hg, h => by
    have hg' : g = true → a.isLocal = true ∧ rest.all (·.isLocal) = true := fun h => by simpa using hg h
    simp only [runDefine]
    by_cases hl : a.isLocal = true
    · rw [if_pos hl]
      refine runDefine_inv py orig c0 rest _ true (fun h => (hg' h).2) ?_
      -- `setLocal` touches the locals only, which `Stacks` does not mention: the fields are the same facts re-typed
      cases found
      · have hpush : c.locals :: c.localStack = c0.locals :: c0.localStack := by rw [h.locals, h.stacks.localStack]
        exact ⟨{ h.stacks with localStack := hpush }, h.repeatMap⟩
      · exact ⟨{ h.1 with }, h.2⟩
    · -- a global define: excluded under `g`
      have ng : ¬ g = true := fun hg => hl (hg' hg).1
      rw [if_neg hl]
      refine runDefine_inv py orig c0 rest _ found (fun hg => absurd hg ng) ?_
      cases found
      · exact ⟨h.locals, h.repeatMap, { h.stacks with globals := fun hg => absurd hg ng }⟩
      · exact ⟨{ h.1 with globals := fun hg => absurd hg ng }, h.2⟩

section phases
variable {g : Bool} (py : Str → Val) (orig : List (Str × Str)) (c : Cmds) (ctx : Ctx)

theorem definePhase_inv (hg : g = true → (c.define.getD []).all (·.isLocal) = true) :
    DefInv g ctx (definePhase py orig c ctx).2 (definePhase py orig c ctx).1 := by
  unfold definePhase
  cases hd : c.define with
  | none => exact Same.attrs g ctx ctx.attrs
  | some args => exact runDefine_inv py orig ctx args ctx false (by simpa [hd] using hg) (Same.attrs g ctx ctx.attrs)

theorem definePhase_bracket (hg : g = true → (c.define.getD []).all (·.isLocal) = true) {r : Ctx}
    (hr : Same g r (definePhase py orig c ctx).1) : Same g (if (definePhase py orig c ctx).2 then r.popLocals else r) ctx := by
  have inv := definePhase_inv py orig c ctx hg
  cases hld : (definePhase py orig c ctx).2 <;> rw [hld] at inv
  · exact hr.trans inv
  · exact Same.pop (hr.stacks.trans inv.1) (hr.repeatMap.trans inv.2)

theorem condPhase_same : Same g (condPhase py orig c ctx).2 ctx := by
  fun_cases condPhase py orig c ctx <;> exact Same.attrs g ctx _
theorem contentPhase_same : Same g (contentPhase py orig c ctx).1 ctx := by
  fun_cases contentPhase py orig c ctx <;> exact Same.attrs g ctx _
theorem attrPhase_same (atts : List (Str × Str)) : Same g (attrPhase py orig c atts ctx).1 ctx := by
  fun_cases attrPhase py orig c atts ctx <;> exact Same.attrs g ctx _
theorem omitPhase_same (b : Bool) : Same g (omitPhase py orig c b ctx).1 ctx := by
  fun_cases omitPhase py orig c b ctx <;> exact Same.attrs g ctx _

end phases

theorem bodySem_pres {g} (py : Str → Val) (tag : Str) (atts orig : List (Str × Str)) (c : Cmds) (sg ne : Bool)
    {kids : Ctx → Str × Ctx} (hk : Pres g kids) : Pres g (bodySem py tag atts orig c sg ne kids) := by
  intro ctx
  have h := (omitPhase_same py orig c _ (contentPhase py orig c ctx).2.1).trans
    ((attrPhase_same py orig c _ atts).trans (contentPhase_same (g := g) py orig c ctx))
  simp only [bodySem]
  split
  · exact h
  · exact (hk _).trans h

theorem repeatSem_stacks {g} (v : Str) {body : Ctx → Str × Ctx} (hb : Pres g body) :
    ∀ (xs : List Val) (c : Ctx), Stacks g (repeatSem v body xs c).2 c
  | [], _ => ⟨rfl, rfl, rfl, fun _ => rfl⟩
  | _ :: xs, _ => (repeatSem_stacks v hb xs _).trans ((hb _).stacks.trans ⟨rfl, rfl, rfl, fun _ => rfl⟩)

theorem repeatPhase_pres {g} (py : Str → Val) (orig : List (Str × Str)) (c : Cmds) {body : Ctx → Str × Ctx} (hb : Pres g body) :
    Pres g (repeatPhase py orig c body) := fun ctx =>
  repeatPhase_cases py orig body ctx (motive := fun r => Same g r.2 ctx)
    (fun o => (hb _).trans (Same.attrs g ctx o)) (Same.attrs g ctx orig)
    (fun v _ _ xs => (Same.unwind ((repeatSem_stacks v hb xs _).trans (hb _).stacks)).trans (Same.attrs g ctx orig))

mutual
/-- an element restores locals, repeat variables and both stacks; it restores the globals too if it
    and its descendants define none (`g`) -/
theorem denote_same (g) (py : Str → Val) : ∀ (n : Node) (ctx : Ctx), (g = true → noGlobalDefine n = true) → Same g (denote py n ctx).2 ctx
  | .data s, ctx, _ => Same.attrs g ctx ctx.attrs
  | .elem tag atts orig c sg ne kids, ctx, hg => by
    have hg' : g = true → (c.define.getD []).all (·.isLocal) = true ∧ noGlobalDefineList kids = true := fun h => by
      simpa [noGlobalDefine] using hg h
    have hrep := repeatPhase_pres py orig c
      (bodySem_pres py tag atts orig c sg ne fun x => denoteList_same g py kids x fun h => (hg' h).2)
    simp only [denote]
    refine definePhase_bracket py orig c ctx (fun h => (hg' h).1) ?_
    split
    · exact (hrep _).trans (condPhase_same ..)
    · exact condPhase_same ..
theorem denoteList_same (g) (py : Str → Val) : ∀ (ns : List Node) (ctx : Ctx), (g = true → noGlobalDefineList ns = true) →
    Same g (denoteList py ns ctx).2 ctx
  | [], ctx, _ => Same.attrs g ctx ctx.attrs
  | n :: ns, ctx, hg => by
    have hg' : g = true → noGlobalDefine n = true ∧ noGlobalDefineList ns = true := fun h => by
      simpa [noGlobalDefineList] using hg h
    simp only [denoteList]
    exact (denoteList_same g py ns _ fun h => (hg' h).2).trans (denote_same g py n ctx fun h => (hg' h).1)
end

theorem denote_globals (py : Str → Val) : ∀ (n : Node) (ctx : Ctx), noGlobalDefine n = true → (denote py n ctx).2.globals = ctx.globals :=
  fun n ctx h => (denote_same true py n ctx fun _ => h).stacks.globals rfl

theorem evalFuel_gate (py1 py2 : Str → Val) (c : Ctx) (hc : c.allowPython = false) :
    ∀ (fuel : Nat) (e : Str), evalFuel py1 fuel c e = evalFuel py2 fuel c e
  | 0, e => by simp [evalFuel]
  | fuel + 1, e => by
    have ihf : evalFuel py1 fuel c = evalFuel py2 fuel c := funext (evalFuel_gate py1 py2 c hc fuel)
    have hp : ∀ e, evalFuel.evalPathE py1 fuel c e = evalFuel.evalPathE py2 fuel c e := by
      intro e; simp only [evalFuel.evalPathE, ihf]
    simp only [evalFuel, ihf, hp, hc, Bool.false_eq_true, ↓reduceIte]

/-- every phase evaluates in the context it is given with `attrs` replaced -/
theorem eval_gate (py1 py2 : Str → Val) {c : Ctx} (hc : c.allowPython = false) (o : List (Str × Str)) :
    eval py1 { c with attrs := o } = eval py2 { c with attrs := o } := by
  funext e; simp only [eval, evalFuel_gate py1 py2 { c with attrs := o } hc]

def GateEq (f g : Ctx → Str × Ctx) : Prop := ∀ c, c.allowPython = false → f c = g c

theorem runDefine_gate (py1 py2 : Str → Val) (orig : List (Str × Str)) : ∀ (args : List DefineArg) (c : Ctx) (found : Bool),
    c.allowPython = false → runDefine py1 orig args c found = runDefine py2 orig args c found
  | [], c, found, _ => rfl
  | a :: rest, c, found, hc => by
    simp only [runDefine, eval_gate py1 py2 hc orig]
    split
    · exact runDefine_gate py1 py2 orig rest _ true (by cases found <;> exact hc)
    · exact runDefine_gate py1 py2 orig rest _ found hc

variable (py1 py2 : Str → Val) (orig : List (Str × Str)) (c : Cmds) {ctx : Ctx} (hc : ctx.allowPython = false)
include hc

theorem definePhase_gate : definePhase py1 orig c ctx = definePhase py2 orig c ctx := by
  unfold definePhase; split
  · exact runDefine_gate py1 py2 orig _ ctx false hc
  · rfl
theorem condPhase_gate : condPhase py1 orig c ctx = condPhase py2 orig c ctx := by
  simp only [condPhase, eval_gate py1 py2 hc orig]
theorem contentPhase_gate : contentPhase py1 orig c ctx = contentPhase py2 orig c ctx := by
  simp only [contentPhase, eval_gate py1 py2 hc orig]
theorem attrPhase_gate (atts : List (Str × Str)) : attrPhase py1 orig c atts ctx = attrPhase py2 orig c atts ctx := by
  simp only [attrPhase, eval_gate py1 py2 hc orig]
theorem omitPhase_gate (b : Bool) : omitPhase py1 orig c b ctx = omitPhase py2 orig c b ctx := by
  simp only [omitPhase, eval_gate py1 py2 hc orig]

omit hc

theorem bodySem_gate (tag : Str) (atts : List (Str × Str)) (sg ne : Bool) {k1 k2 : Ctx → Str × Ctx} (hk : GateEq k1 k2) :
    GateEq (bodySem py1 tag atts orig c sg ne k1) (bodySem py2 tag atts orig c sg ne k2) := by
  intro ctx hc
  have a1 := (contentPhase_same (g := false) py2 orig c ctx).stacks.allow.trans hc
  have a2 := (attrPhase_same (g := false) py2 orig c _ atts).stacks.allow.trans a1
  have a3 := (omitPhase_same (g := false) py2 orig c _ (contentPhase py2 orig c ctx).2.1).stacks.allow.trans a2
  simp only [bodySem, contentPhase_gate py1 py2 orig c hc, attrPhase_gate py1 py2 orig c a1, omitPhase_gate py1 py2 orig c a2, hk _ a3]

theorem repeatSem_gate (v : Str) {b1 b2 : Ctx → Str × Ctx} (hb : GateEq b1 b2) (hp : Pres false b2) :
    ∀ (xs : List Val) (c : Ctx), c.allowPython = false → repeatSem v b1 xs c = repeatSem v b2 xs c
  | [], _, _ => rfl
  | x :: xs, c, hc => by
    have h0 : ((c.bumpRepeat v).setLocal v x).allowPython = false := hc
    simp only [repeatSem, hb _ h0, repeatSem_gate v hb hp xs _ ((hp _).stacks.allow.trans h0)]

theorem repeatPhase_gate {b1 b2 : Ctx → Str × Ctx} (hb : GateEq b1 b2) (hp : Pres false b2) :
    GateEq (repeatPhase py1 orig c b1) (repeatPhase py2 orig c b2) := by
  intro ctx hc
  have h0 : ({ ctx with attrs := orig } : Ctx).allowPython = false := hc
  have h1 : ∀ v n x, b1 (({ ctx with attrs := orig } : Ctx).addRepeat v n x) = b2 (({ ctx with attrs := orig } : Ctx).addRepeat v n x) :=
    fun _ _ _ => hb _ hc
  have h2 : ∀ v n x xs, repeatSem v b1 xs (b2 (({ ctx with attrs := orig } : Ctx).addRepeat v n x)).2 =
      repeatSem v b2 xs (b2 (({ ctx with attrs := orig } : Ctx).addRepeat v n x)).2 :=
    fun v _ _ xs => repeatSem_gate v hb hp xs _ ((hp _).stacks.allow.trans hc)
  unfold repeatPhase
  split
  · exact hb ctx hc
  · simp only [eval_gate py1 py2 hc orig, hb _ h0, h1, h2]

mutual
theorem denote_gate (py1 py2 : Str → Val) : ∀ (n : Node), GateEq (denote py1 n) (denote py2 n)
  | .data s => fun _ _ => rfl
  | .elem tag atts orig c sg ne kids => by
    intro ctx hc
    have hr := repeatPhase_gate py1 py2 orig c (bodySem_gate py1 py2 orig c tag atts sg ne (denoteList_gate py1 py2 kids))
      (bodySem_pres py2 tag atts orig c sg ne fun x => denoteList_same false py2 kids x nofun)
    have a1 := (definePhase_inv (g := false) py2 orig c ctx nofun).allow.trans hc
    have a2 := (condPhase_same (g := false) py2 orig c _).stacks.allow.trans a1
    simp only [denote, definePhase_gate py1 py2 orig c hc, condPhase_gate py1 py2 orig c a1, hr _ a2]
theorem denoteList_gate (py1 py2 : Str → Val) : ∀ (ns : List Node), GateEq (denoteList py1 ns) (denoteList py2 ns)
  | [] => fun _ _ => rfl
  | n :: ns => by
    intro ctx hc
    simp only [denoteList, denote_gate py1 py2 n ctx hc,
      denoteList_gate py1 py2 ns _ ((denote_same false py2 n ctx nofun).stacks.allow.trans hc)]
end

/-- strings generated from the pieces `S` (the template's own strings) and HTML-escaped strings -/
inductive Gen (S : Str → Prop) : Str → Prop
  | nil : Gen S []
  | lit {s : Str} : S s → Gen S s
  | esc (q : Bool) (x : Str) : Gen S (htmlEscape q x)
  | app {a b : Str} : Gen S a → Gen S b → Gen S (a ++ b)

theorem Gen.mono {S T : Str → Prop} (h : ∀ s, S s → T s) {x : Str} (g : Gen S x) : Gen T x := by
  induction g with
  | nil => exact .nil
  | lit hs => exact .lit (h _ hs)
  | esc q x => exact .esc q x
  | app _ _ iha ihb => exact .app iha ihb

/-- fixed punctuation the serialiser writes -/
def punct : List Str := [[34], lit " />", [62]]

mutual
/-- the template's own strings: static text, `<tag`, `</tag>`, ` name="` for every attribute name
    the template mentions (literal or in `tal:attributes`) -/
def statics : Node → List Str
  | .data s => [s]
  | .elem tag atts _ c _ _ kids =>
    [[60] ++ tag, lit "</" ++ tag ++ [62]] ++ (atts.map fun kv => [32] ++ kv.1 ++ lit "=\"") ++
    ((c.attributes.getD []).map fun kv => [32] ++ kv.1 ++ lit "=\"") ++ staticsList kids
def staticsList : List Node → List Str
  | [] => []
  | n :: ns => statics n ++ staticsList ns
end

mutual
/-- no `structure` keyword anywhere -/
def noStructure : Node → Bool
  | .data _ => true
  | .elem _ _ _ c _ _ kids => (match c.content with | some (_, raw, _) => !raw | none => true) && noStructureList kids
def noStructureList : List Node → Bool
  | [] => true
  | n :: ns => noStructure n && noStructureList ns
end

theorem attrPhase_keys {p : Str → Prop} (py : Str → Val) (orig : List (Str × Str)) (c : Cmds) {atts : List (Str × Str)} (ctx : Ctx)
    (ha : ∀ x ∈ c.attributes.getD [], p x.1) (hc : ∀ x ∈ atts, p x.1) : ∀ kv ∈ (attrPhase py orig c atts ctx).2, p kv.1 := by
  unfold attrPhase
  cases hat : c.attributes with
  | none => exact hc
  | some args =>
    intro kv h
    simp only [applyAttributes, List.mem_append, List.mem_filterMap, List.mem_map, List.mem_filter] at h
    rcases h with ⟨r, ⟨a, ha', rfl⟩, hr⟩ | ⟨h, _⟩
    · dsimp only at hr
      split at hr <;> cases hr
      exact ha a (by simpa [hat] using ha')
    · exact hc kv h

theorem gen_tagAsText {S : Str → Prop} (tag : Str) (atts : List (Str × Str)) (sg : Bool)
    (hp : ∀ s ∈ punct, S s) (ht : S ([60] ++ tag)) (hk : ∀ kv ∈ atts, S ([32] ++ kv.1 ++ lit "=\"")) :
    Gen S (tagAsText tag atts sg) := by
  unfold tagAsText
  refine .app (.app (.lit ht) ?_) ?_
  · induction atts with
    | nil => exact .nil
    | cons kv rest ih =>
      simp only [List.map_cons, List.flatten_cons]
      refine .app ?_ (ih fun x hx => hk x (List.mem_cons_of_mem _ hx))
      exact .app (.app (.lit (hk kv List.mem_cons_self)) (.esc true kv.2)) (.lit (hp _ (by simp [punct])))
  · cases sg <;> exact .lit (hp _ (by simp [punct]))

theorem gen_repeatSem {S : Str → Prop} (v : Str) {body : Ctx → Str × Ctx} (hb : ∀ c, Gen S (body c).1) :
    ∀ (xs : List Val) (c : Ctx), Gen S (repeatSem v body xs c).1
  | [], _ => .nil
  | _ :: xs, _ => .app (hb _) (gen_repeatSem v hb xs _)

theorem gen_repeatPhase {S : Str → Prop} (py : Str → Val) (orig : List (Str × Str)) (c : Cmds) {body : Ctx → Str × Ctx}
    (hb : ∀ x, Gen S (body x).1) (ctx : Ctx) : Gen S (repeatPhase py orig c body ctx).1 :=
  repeatPhase_cases py orig body ctx (motive := fun r => Gen S r.1) (fun _ => hb _) .nil
    (fun v _ _ xs => .app (hb _) (gen_repeatSem v hb xs _))

theorem gen_content {S : Str → Prop} (py : Str → Val) (orig : List (Str × Str)) (c : Cmds) (ctx : Ctx)
    (hns : (match c.content with | some (_, raw, _) => !raw | none => true) = true) :
    Gen S (contentText (contentPhase py orig c ctx).2.2.1) := by
  fun_cases contentPhase py orig c ctx with
  | case3 _ raw _ hct =>          -- the clause that substitutes a value: escaped, since `structure` is excluded
    rw [hct] at hns
    cases raw
    · exact .esc false _
    · cases hns
  | _ => exact .nil

theorem gen_bodySem {S : Str → Prop} (py : Str → Val) (tag : Str) (atts orig : List (Str × Str)) (c : Cmds) (sg ne : Bool)
    {kids : Ctx → Str × Ctx} (hk : ∀ x, Gen S (kids x).1)
    (hns : (match c.content with | some (_, raw, _) => !raw | none => true) = true) (hp : ∀ s ∈ punct, S s)
    (ht : S ([60] ++ tag)) (hc : S (lit "</" ++ tag ++ [62])) (ha : ∀ kv ∈ atts, S ([32] ++ kv.1 ++ lit "=\""))
    (ha2 : ∀ kv ∈ c.attributes.getD [], S ([32] ++ kv.1 ++ lit "=\"")) (ctx : Ctx) :
    Gen S (bodySem py tag atts orig c sg ne kids ctx).1 := by
  simp only [bodySem]
  refine .app (.app (.app ?_ ?_) (gen_content py orig c ctx hns)) ?_
  · split
    · exact gen_tagAsText tag _ _ hp ht (attrPhase_keys (p := fun k => S ([32] ++ k ++ lit "=\"")) py orig c _ ha2 ha)
    · exact .nil
  · split
    · exact .nil
    · exact hk _
  · split
    · exact .lit hc
    · exact .nil

mutual
theorem gen_denote {S : Str → Prop} (py : Str → Val) (hp : ∀ s ∈ punct, S s) :
    ∀ (n : Node) (ctx : Ctx), noStructure n = true → (∀ s ∈ statics n, S s) → Gen S (denote py n ctx).1
  | .data s, ctx, _, hs => .lit (hs s (by simp [statics]))
  | .elem tag atts orig c sg ne kids, ctx, hn, hs => by
    simp only [noStructure, Bool.and_eq_true] at hn
    simp only [statics, List.forall_mem_append, List.forall_mem_cons, List.forall_mem_map] at hs
    obtain ⟨⟨⟨⟨ht, hc, -⟩, ha⟩, ha2⟩, hk⟩ := hs
    have hb := gen_bodySem py tag atts orig c sg ne (fun x => gen_denoteList py hp kids x hn.2 hk) hn.1 hp ht hc ha ha2
    simp only [denote]
    split
    · exact gen_repeatPhase py orig c hb _
    · exact .nil
theorem gen_denoteList {S : Str → Prop} (py : Str → Val) (hp : ∀ s ∈ punct, S s) :
    ∀ (ns : List Node) (ctx : Ctx), noStructureList ns = true → (∀ s ∈ staticsList ns, S s) → Gen S (denoteList py ns ctx).1
  | [], _, _, _ => .nil
  | n :: ns, ctx, hn, hs => by
    simp only [noStructureList, Bool.and_eq_true] at hn
    rw [staticsList, List.forall_mem_append] at hs
    exact .app (gen_denote py hp n ctx hn.1 hs.1) (gen_denoteList py hp ns _ hn.2 hs.2)
end

theorem gen_absent {S : Str → Prop} {d : Nat} (hE : ∀ q x, d ∉ htmlEscape q x) (hS : ∀ s, S s → d ∉ s) {x : Str} (g : Gen S x) :
    d ∉ x := by
  induction g with
  | nil => simp
  | lit hs => exact hS _ hs
  | esc q x => exact hE q x
  | app _ _ iha ihb => simp only [List.mem_append, not_or]; exact ⟨iha, ihb⟩

mutual
def plain : Node → Bool
  | .data _ => true
  | .elem _ _ _ c _ _ kids => decide (c = {}) && plainList kids
def plainList : List Node → Bool
  | [] => true
  | n :: ns => plain n && plainList ns
end

mutual
/-- the serialisation of a tree (what the template text is, in normal form) -/
def ser : Node → Str
  | .data s => s
  | .elem tag atts _ _ sg ne kids =>
    tagAsText tag atts sg ++ serList kids ++ (if !ne && !sg then lit "</" ++ tag ++ [62] else [])
def serList : List Node → Str
  | [] => []
  | n :: ns => ser n ++ serList ns
end

mutual
theorem denote_plain (py : Str → Val) : ∀ (n : Node) (ctx : Ctx), plain n = true → denote py n ctx = (ser n, ctx)
  | .data s, ctx, _ => by simp [denote, ser]
  | .elem tag atts orig c sg ne kids, ctx, h => by
    simp only [plain, Bool.and_eq_true, decide_eq_true_eq] at h
    obtain ⟨hc, hk⟩ := h
    subst hc
    have ih := denoteList_plain py kids ctx hk
    simp [denote, definePhase, condPhase, repeatPhase, bodySem, contentPhase, attrPhase, omitPhase, contentText, ih, ser]
theorem denoteList_plain (py : Str → Val) : ∀ (ns : List Node) (ctx : Ctx), plainList ns = true → denoteList py ns ctx = (serList ns, ctx)
  | [], ctx, _ => by simp [denoteList, serList]
  | n :: ns, ctx, h => by
    simp only [plainList, Bool.and_eq_true] at h
    simp [denoteList, serList, denote_plain py n ctx h.1, denoteList_plain py ns ctx h.2]
end

end Pyg.Tal
