import PygVerif.Model.Escape
import PygVerif.Lemmas.Str
/-!
# Lemmas/Escape — percent-encoding round trips

`quoteBytes` works byte by byte (`quoteBytes_eq_flatMap`); its alphabet and its inverse are facts about one byte.
-/
namespace Pyg

theorem hexVal_hexDigit (n : Nat) (h : n < 16) : hexVal? (hexDigit n) = some n := by
  revert n; decide

def quoteByte (b : Nat) : Str := if urlSafe b then [b] else [37, hexDigit (b / 16), hexDigit (b % 16)]

theorem quoteBytes_eq_flatMap (bs : Bytes) : quoteBytes bs = bs.flatMap quoteByte := by
  induction bs with
  | nil => rfl
  | cons b bs ih => rw [quoteBytes, List.flatMap_cons, quoteByte, ← ih]; split <;> rfl

theorem unquoteToBytes_cons_ne {c : Nat} (h : c ≠ 37) (r : Str) :
    unquoteToBytes (c :: r) = c :: unquoteToBytes r := by
  rw [unquoteToBytes]
  exact fun _ _ _ e _ => h e

theorem unquoteToBytes_quoteByte (b : Nat) (hb : b < 256) (r : Str) :
    unquoteToBytes (quoteByte b ++ r) = b :: unquoteToBytes r := by
  unfold quoteByte
  split
  · rename_i hs
    exact unquoteToBytes_cons_ne (by rintro rfl; simp [urlSafe] at hs) r
  · simp only [List.cons_append, List.nil_append, unquoteToBytes, hexVal_hexDigit (b / 16) (Nat.div_lt_of_lt_mul hb),
      hexVal_hexDigit (b % 16) (Nat.mod_lt _ (by decide))]
    rw [Nat.div_add_mod']

theorem unquoteToBytes_quoteBytes (bs : Bytes) (h : Bytes.WF bs) : unquoteToBytes (quoteBytes bs) = bs := by
  rw [quoteBytes_eq_flatMap]
  exact flatMap_leftInverse (by rw [unquoteToBytes]) bs fun b hb => unquoteToBytes_quoteByte b (h b hb)

/-- the alphabet of `quote`: unreserved characters, `/`, `%` and upper-case hex digits -/
def isQuoteChar (c : Nat) : Bool :=
  urlSafe c || c == 37 || (65 ≤ c && c ≤ 70)

theorem quoteByte_alphabet (b : Nat) (hb : b < 256) : ∀ c ∈ quoteByte b, isQuoteChar c = true := by
  unfold quoteByte
  split
  · rename_i hs; simp [isQuoteChar, hs]
  · have hd : ∀ n, n < 16 → isQuoteChar (hexDigit n) = true := by decide
    intro c hc
    simp only [List.mem_cons, List.not_mem_nil, or_false] at hc
    rcases hc with rfl | rfl | rfl
    · rfl
    · exact hd _ (Nat.div_lt_of_lt_mul hb)
    · exact hd _ (Nat.mod_lt _ (by decide))

theorem quoteBytes_alphabet (bs : Bytes) (h : Bytes.WF bs) : ∀ c ∈ quoteBytes bs, isQuoteChar c = true := by
  rw [quoteBytes_eq_flatMap, List.forall_mem_flatMap]
  exact fun b hb => quoteByte_alphabet b (h b hb)

theorem not_mem_quoteBytes (bs : Bytes) (h : Bytes.WF bs) {c : Nat} (hc : isQuoteChar c = false) :
    c ∉ quoteBytes bs := fun hm => by rw [quoteBytes_alphabet bs h c hm] at hc; cases hc

theorem quoteBytes_ne_nil (bs : Bytes) (h : bs ≠ []) : quoteBytes bs ≠ [] := by
  cases bs with
  | nil => exact absurd rfl h
  | cons b r => unfold quoteBytes; split <;> simp

theorem isQuoteChar_spec (c : Nat) (h : isQuoteChar c = true) :
    c < 128 ∧ c ≠ 32 ∧ c ≠ 9 ∧ c ≠ 13 ∧ c ≠ 10 ∧ c ≠ 34 ∧ c ≠ 60 ∧ c ≠ 62 ∧ c ≠ 63 ∧ c ≠ 39 ∧ c ≠ 38 ∧
    c ≠ 35 ∧ c ≠ 61 ∧ c ≠ 43 ∧ c ≠ 124 ∧ c ≠ 0 ∧ c ≠ 92 := by
  -- a character outside the alphabet is not `c`: each of the sixteen is checked by evaluation
  have ne : ∀ k, isQuoteChar k = false → c ≠ k := fun k hk e => by rw [e, hk] at h; cases h
  refine ⟨?_, ne _ rfl, ne _ rfl, ne _ rfl, ne _ rfl, ne _ rfl, ne _ rfl, ne _ rfl, ne _ rfl, ne _ rfl, ne _ rfl,
    ne _ rfl, ne _ rfl, ne _ rfl, ne _ rfl, ne _ rfl, ne _ rfl⟩
  simp only [isQuoteChar, urlSafe, Bool.or_eq_true, Bool.and_eq_true, decide_eq_true_eq, beq_iff_eq] at h
  omega

theorem asciiRun_all (s : Str) (h : ∀ c ∈ s, c < 128) : asciiRun s = (s, []) := by
  induction s with
  | nil => rfl
  | cons c cs ih =>
    have hc := h c (by simp)
    simp [asciiRun, hc, ih (fun x hx => h x (by simp [hx]))]

theorem unquote_ascii (s : Str) (h : ∀ c ∈ s, c < 128) : unquote s = decodeSE (unquoteToBytes s) := by
  unfold unquote
  cases s with
  | nil => simp [unquoteAux, unquoteToBytes, decodeSE]
  | cons c cs => simp [unquoteAux, asciiRun_all (c :: cs) h, nonAsciiRun]

theorem unquote_quoteBytes (bs : Bytes) (h : Bytes.WF bs) : unquote (quoteBytes bs) = decodeSE bs := by
  rw [unquote_ascii _ (fun c hc => (isQuoteChar_spec c (quoteBytes_alphabet bs h c hc)).1),
    unquoteToBytes_quoteBytes bs h]

/-- for a selector that came from bytes (a file name), `quote` succeeds and decodes back -/
theorem quote_roundtrip (bs : Bytes) (h : Bytes.WF bs) :
    ∃ q, quote (decodeSE bs) = some q ∧ unquote q = decodeSE bs ∧ ∀ c ∈ q, isQuoteChar c = true := by
  refine ⟨quoteBytes bs, ?_, unquote_quoteBytes bs h, quoteBytes_alphabet bs h⟩
  simp [quote, encode_decode bs h]

end Pyg
