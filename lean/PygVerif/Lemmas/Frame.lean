import PygVerif.Model.Frame
import PygVerif.Lemmas.Doc
/-!
# Lemmas/Frame — the first line of a response

What `splitCrlf` returns on the framings of `Model/Frame`: a status line is one line whatever its meta text; an HTTP
header block (`httpHeaders`, `Model/Doc`) begins with `HTTP/1.0 ` and ends with the blank line.
-/
namespace Pyg

theorem splitCrlf_append (h : Bytes) (b : Bytes) (hh : 13 ∉ h) :
    splitCrlf (h ++ [13, 10] ++ b) = (h, b) := by
  induction h with
  | nil => simp [splitCrlf]
  | cons c cs ih =>
    rw [List.mem_cons, not_or] at hh
    rw [List.cons_append, List.cons_append, splitCrlf, ih hh.2]
    exact fun _ e _ => hh.1 e.symm

/-- the Gopher+ `+N` header reads back as `N` and the body, whatever `N` and the body are -/
theorem splitCrlf_gplusDoc (n : Nat) (body : Bytes) : splitCrlf (gplusDoc (some n) body) = (43 :: toDec n, body) :=
  splitCrlf_append _ body (List.not_mem_cons_of_ne_of_not_mem (by decide) fun h => by have := toDec_digits n 13 h; omega)

theorem collapseAux_no_crlf (b : Bool) (s : Str) : ∀ x ∈ collapseAux b s, x ≠ 13 ∧ x ≠ 10 := by
  fun_induction collapseAux b s with
  | case1 => nofun
  | case2 _ _ _ ih => exact ih
  | case3 _ _ _ _ _ ih => exact List.forall_mem_cons.mpr ⟨by decide, ih⟩
  | case4 _ c cs h ih => exact List.forall_mem_cons.mpr ⟨by simpa using h, ih⟩

/-- Whatever text ends up in the meta field (it echoes the decoded selector), a Gemini / Spartan status
    line is a single line: the only CR LF is the terminator, and what follows the status line is the rest -/
theorem splitCrlf_statusLine (code mt : Str) (hc : 13 ∉ code) (rest : Bytes) :
    splitCrlf (statusLine code mt ++ rest) = (code ++ [32] ++ collapseCrLf mt, rest) := by
  refine splitCrlf_append _ rest fun h => ?_
  simp only [List.mem_append, List.mem_singleton] at h
  rcases h with (h | h) | h
  · exact hc h
  · cases h
  · exact (collapseAux_no_crlf false mt 13 h).1 rfl

theorem httpHeaders_prefix (lm : Option Str) (ct : Str) : lit "HTTP/1.0 " <+: httpHeaders lm ct := by
  have h : lit "HTTP/1.0 " <+: lit "HTTP/1.0 200 OK\r\n" := by
    rw [lit_ofList, lit_ofList]; decide +kernel
  simp only [httpHeaders, List.append_assoc]
  exact h.trans (List.prefix_append _ _)

theorem httpHeaders_suffix (lm : Option Str) (ct : Str) : [13, 10, 13, 10] <:+ httpHeaders lm ct :=
  ⟨_, rfl⟩

theorem framed_append {p s a : Bytes} (hp : p <+: a) (hs : s <:+ a) (b : Bytes) :
    p <+: a ++ b ∧ s <:+: a ++ b :=
  ⟨hp.trans (List.prefix_append a b), hs.isInfix.trans (List.prefix_append a b).isInfix⟩

end Pyg
