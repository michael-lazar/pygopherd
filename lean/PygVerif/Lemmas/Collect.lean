import PygVerif.Model.Umn
import PygVerif.Lemmas.Str
/-!
# Lemmas/Collect — the listing functions of the model are `List.mapM` in `Option`

`gmParse`, `collectLinks` and `childEntries` are each written out as a recursion that runs a per-member
function over a list, fails as soon as one call fails, and concatenates.  Here each is said to be what it
is (`mapM`, or `mapM` followed by `flatten`: `collect`), what the property files need of such a traversal
is proved once, and `dirListing` is given as a function of the members in name order (`listWalk`).  At the end,
for the UMN order of a listing: `cmpStr` is `strLe`.
-/
namespace Pyg

variable {α β : Type}

def collect (g : α → Option (List β)) (l : List α) : Option (List β) := (l.mapM g).map List.flatten

theorem collect_cons (g : α → Option (List β)) (a : α) (l : List α) :
    collect g (a :: l) = match g a, collect g l with
      | some x, some y => some (x ++ y)
      | _, _ => none := by
  simp only [collect, mapM_cons_option]; cases g a <;> cases l.mapM g <;> rfl

theorem collect_append (g : α → Option (List β)) (a b : List α) :
    collect g (a ++ b) = match collect g a, collect g b with
      | some x, some y => some (x ++ y)
      | _, _ => none := by
  simp only [collect, List.mapM_append]; cases a.mapM g <;> cases b.mapM g <;> simp

theorem collect_skip {g : α → Option (List β)} {x : α} (hx : g x = some []) (a b : List α) :
    collect g (a ++ x :: b) = collect g (a ++ b) := by
  simp only [collect_append, collect_cons, hx]; cases collect g a <;> cases collect g b <;> rfl

theorem collect_total {g : α → Option (List β)} {h : α → List β} {l : List α} (hg : ∀ a ∈ l, g a = some (h a)) :
    collect g l = some (l.flatMap h) := by
  have : l.mapM g = some (l.map h) := mapM_eq_some.mpr (by simpa using hg)
  rw [collect, this]; rfl

theorem gmParse_eq_mapM (fb : List Str) (ea : List (Str × Str)) (dm base : Str) (pop : Str → Option PopInfo) (ls : List Str) :
    gmParse fb ea dm base pop ls = ls.mapM (gmLine fb ea dm base pop) := by
  induction ls with
  | nil => rfl
  | cons l ls ih => rw [gmParse, ih, mapM_cons_option]; cases gmLine fb ea dm base pop l <;> cases ls.mapM (gmLine fb ea dm base pop) <;> rfl

theorem collectLinks_eq_collect (c : DirCfg) (d base : Str) (l : List Child) :
    collectLinks c d base l = collect (linksOf c d base) l := by
  induction l with
  | nil => rfl
  | cons ch l ih => rw [collectLinks, ih, collect_cons]; cases linksOf c d base ch <;> cases collect (linksOf c d base) l <;> rfl

theorem childEntries_eq_collect (c : DirCfg) (d base : Str) (l : List Child) :
    childEntries c d base l = collect (fun ch => (childEntry c d base ch).map Option.toList) l := by
  induction l with
  | nil => rfl
  | cons ch l ih =>
    rw [childEntries, ih, collect_cons]
    cases childEntry c d base ch with
    | none => rfl
    | some o => cases o <;> cases collect (fun ch => (childEntry c d base ch).map Option.toList) l <;> rfl

/-- `dirListing` after its sort: link files are read from all members, entries are made for the visible ones,
    the UMN handler merges the two and sorts by `entrycmp` -/
def listWalk (c : DirCfg) (dirSel base : Str) (sorted : List Child) : Option (List Entry) :=
  (collect (linksOf c dirSel base) sorted).bind fun links =>
  (collect (fun ch => (childEntry c dirSel base ch).map Option.toList) (sorted.filter (visibleName c base))).bind fun es =>
  if !c.umn then some es
  else (mergeLinks links (es.mapIdx fun i e => (i, (e.selector, some e)))).map fun merged =>
    (merged.filterMap fun x => x.2.2).mergeSort entryLe

theorem dirListing_eq_listWalk (c : DirCfg) (d : Str) (kids : List Child) :
    dirListing c d kids =
      listWalk c d (if d == [47] then [] else d) (kids.mergeSort fun a b => strLe a.name b.name) := by
  simp only [dirListing, listWalk, collectLinks_eq_collect, childEntries_eq_collect]
  cases collect (linksOf c d _) _ <;> simp only [Option.bind_none, Option.bind_some]
  cases collect _ (List.filter _ _) <;> simp only [Option.bind_none, Option.bind_some]
  split
  · rfl
  · cases mergeLinks _ _ <;> rfl

theorem listWalk_skip {c : DirCfg} {d base : Str} {f : Child}
    (hl : linksOf c d base f = some []) (he : childEntry c d base f = some none) (a b : List Child) :
    listWalk c d base (a ++ f :: b) = listWalk c d base (a ++ b) := by
  simp only [listWalk, List.filter_append, List.filter_cons, collect_skip hl]
  split
  · rw [collect_skip (by rw [he]; rfl)]
  · rfl

theorem cmpStr_le (a b : Str) : cmpStr a b ≤ 0 ↔ strLe a b = true := by
  rw [strLe_iff, ← List.not_lt, cmpStr]
  simp only [strLt_iff]
  by_cases h : b < a
  · simp [h, List.lt_asymm h]
  · simp only [h, if_false, not_false_iff, iff_true]; split <;> omega

end Pyg
