import PygVerif.Model.Str
import PygVerif.Lemmas.List
/-!
# Lemmas/Str — the string layer

Each function of `Model/Str` gets the one equation that ties it to a function of core (`isPrefixOf`,
`takeWhile`, `dropWhile`, `≤` on lists, `List.splitOn`); what the properties need then comes from core's
lemmas.  UTF-8: `encodeCp` on each of its ranges, the scalar of a well-formed sequence of each length, and from
these the one-step lemma of the `surrogateescape` round trip (`encodeCp_decodeOne`).  First the tests, cuts,
`lstrip` and the comparison, then the others in the order of `Model/Str`.
-/
namespace Pyg

/-- The kernel evaluates `lit "…"` by decoding the literal's UTF-8 byte array, at a cost that grows
    faster than the square of its length (seconds for a page template).  It identifies the literal
    with `String.ofList [chars]` for free, so `rw [lit_ofList]` in front of an evaluation lets it
    read the characters off instead.  (`simp` does not index a literal under `String.ofList _`.) -/
theorem lit_ofList (l : List Char) : lit (String.ofList l) = l.map Char.toNat := by
  rw [lit, String.toList_ofList]

/-! `startswith`, `in`, the cuts before and at the first character with a property, `lstrip`: core's functions -/

theorem isPrefixB_eq (p s : Str) : isPrefixB p s = p.isPrefixOf s := by
  fun_induction isPrefixB p s <;> simp [List.isPrefixOf, *]

theorem isPrefixB_iff (p s : Str) : isPrefixB p s = true ↔ p <+: s := by
  rw [isPrefixB_eq, List.isPrefixOf_iff_prefix]

theorem isInfixB_iff (p s : Str) : isInfixB p s = true ↔ p <:+: s := by
  induction s with
  | nil => simp [isInfixB, isPrefixB_iff]
  | cons c cs ih => simp only [isInfixB, Bool.or_eq_true, isPrefixB_iff, ih, List.infix_cons_iff]

theorem takeUntil_eq (p : Nat → Bool) (s : Str) : takeUntil p s = s.takeWhile (fun c => !p c) := by
  induction s with
  | nil => rfl
  | cons c cs ih => cases h : p c <;> simp [takeUntil, List.takeWhile, h, ih]

theorem takeUntil_prefix (p : Nat → Bool) (s : Str) : takeUntil p s <+: s := by
  rw [takeUntil_eq]; exact List.takeWhile_prefix _

theorem dropUntil_eq (p : Nat → Bool) (s : Str) : dropUntil p s = s.dropWhile (fun c => !p c) := by
  induction s with
  | nil => rfl
  | cons c cs ih => cases h : p c <;> simp [dropUntil, List.dropWhile, h, ih]

theorem lstrip_eq (s : Str) : lstrip s = s.dropWhile isSpace := by
  induction s with
  | nil => rfl
  | cons c cs ih => cases h : isSpace c <;> simp [lstrip, List.dropWhile, h, ih]

theorem mem_lstrip {c : Nat} {p : Str} (h : c ∈ lstrip p) : c ∈ p :=
  (List.dropWhile_suffix isSpace).subset (lstrip_eq p ▸ h)

/-! `str` comparison is core's lexicographic order on lists -/

theorem strLe_iff : ∀ a b : Str, strLe a b = true ↔ a ≤ b
  | [], _ => by simp [strLe]
  | _ :: _, [] => by simp [strLe]
  | x :: xs, y :: ys => by
    simp only [strLe, Bool.or_eq_true, decide_eq_true_eq, Bool.and_eq_true, beq_iff_eq, List.cons_le_cons_iff,
      strLe_iff xs ys]

theorem strLe_refl (a : Str) : strLe a a = true := (strLe_iff a a).mpr (List.le_refl a)

theorem strLe_total (a b : Str) : strLe a b = true ∨ strLe b a = true := by
  simp only [strLe_iff]; exact List.le_total a b

theorem strLe_trans (a b c : Str) (h1 : strLe a b = true) (h2 : strLe b c = true) : strLe a c = true := by
  rw [strLe_iff] at *; exact List.le_trans h1 h2

theorem strLe_antisymm (a b : Str) (h1 : strLe a b = true) (h2 : strLe b a = true) : a = b := by
  rw [strLe_iff] at *; exact List.le_antisymm h1 h2

theorem strLt_iff (a b : Str) : strLt a b = true ↔ a < b := by
  simp only [strLt, Bool.and_eq_true, strLe_iff, bne_iff_ne, List.le_iff_lt_or_eq]
  exact ⟨fun ⟨h, hne⟩ => h.resolve_right hne, fun h => ⟨.inl h, fun e => List.lt_irrefl _ (e ▸ h)⟩⟩

/-- `str.split(sep)` is core's `List.splitOn` -/
theorem splitOn_eq (sep : Nat) (s : Str) : splitOn sep s = s.splitOn sep := by
  induction s with
  | nil => rfl
  | cons c cs ih =>
    rw [splitOn, List.splitOn_cons_eq_if_modifyHead, ih]
    cases h : cs.splitOn sep with
    | nil => exact absurd h (List.splitOn_ne_nil sep cs)
    | cons f fs => simp

theorem splitOn_ne_nil (sep : Nat) (s : Str) : splitOn sep s ≠ [] :=
  splitOn_eq sep s ▸ List.splitOn_ne_nil sep s

theorem splitOn_no_sep (sep : Nat) (s : Str) (h : sep ∉ s) : splitOn sep s = [s] :=
  (splitOn_eq sep s).trans (List.splitOn_eq_singleton h)

theorem splitOn_cons_sep (sep : Nat) (b : Str) : splitOn sep (sep :: b) = [] :: splitOn sep b := by
  rw [splitOn, if_pos rfl]

theorem splitOn_append_sep (sep : Nat) (a b : Str) :
    splitOn sep (a ++ sep :: b) = splitOn sep a ++ splitOn sep b := by
  simp only [splitOn_eq, List.splitOn_append_cons_self]

/-- the recursion of `splitOn` without its impossible case (`splitOn` never returns `[]`) -/
theorem splitOn_cons (sep c : Nat) (cs : Str) :
    splitOn sep (c :: cs) =
      if c = sep then [] :: splitOn sep cs else (c :: (splitOn sep cs).headD []) :: (splitOn sep cs).tail := by
  rw [splitOn]
  split
  · rfl
  · split <;> simp [*]

theorem splitOn_append_nosep (sep : Nat) (a b : Str) (hb : sep ∉ b) :
    ∃ init last, splitOn sep a = init ++ [last] ∧ splitOn sep (a ++ b) = init ++ [last ++ b] := by
  induction a with
  | nil => exact ⟨[], [], by simp [splitOn], by simp [splitOn_no_sep sep b hb]⟩
  | cons x xs ih =>
    obtain ⟨init, last, h1, h2⟩ := ih
    by_cases hx : x = sep
    · subst hx
      exact ⟨[] :: init, last, by simp [splitOn, h1], by simp [splitOn, h2]⟩
    · cases init with
      | nil => exact ⟨[], x :: last, by simp [splitOn, hx, h1], by simp [splitOn, hx, h2]⟩
      | cons i is => exact ⟨(x :: i) :: is, last, by simp [splitOn, hx, h1], by simp [splitOn, hx, h2]⟩

theorem splitOn_infix (sep : Nat) (s : Str) :
    (splitOn sep s).headD [] <+: s ∧ ∀ c ∈ splitOn sep s, c <:+: s := by
  induction s with
  | nil => simp [splitOn]
  | cons a s ih =>
    obtain ⟨ihp, ihi⟩ := ih
    have up : ∀ {c : Str}, c <:+: s → c <:+: a :: s := fun h => h.trans (List.suffix_cons a s).isInfix
    rw [splitOn_cons]
    split
    · exact ⟨List.nil_prefix, fun c hc => (List.mem_cons.mp hc).elim (· ▸ List.nil_infix) (fun h => up (ihi c h))⟩
    · have hp : a :: (splitOn sep s).headD [] <+: a :: s := List.cons_prefix_cons.mpr ⟨rfl, ihp⟩
      exact ⟨hp, fun c hc => (List.mem_cons.mp hc).elim (· ▸ hp.isInfix)
        (fun h => up (ihi c (List.mem_of_mem_tail h)))⟩

theorem splitlinesAux_append (l s cur : Str) (h : ∀ c ∈ l, isLineBreak c = false) :
    splitlinesAux (l ++ s) cur = splitlinesAux s (l.reverse ++ cur) := by
  induction l generalizing cur with
  | nil => rfl
  | cons c cs ih =>
    have hc := h c List.mem_cons_self
    rw [List.cons_append, splitlinesAux, hc, if_neg Bool.false_ne_true, ih _ fun x hx => h x (List.mem_cons_of_mem _ hx),
      List.reverse_cons, List.append_assoc]
    · rfl
    -- the patterns of `splitlinesAux` overlap: rewriting with its catch-all equation leaves as a goal that the
    -- argument has none of the earlier shapes (here: is not a CR before a LF)
    · intro r h13 _; subst h13; exact absurd hc (by decide)

theorem splitlines_joinWith (ms : List Str) (hp : ∀ l ∈ ms, (∀ c ∈ l, isLineBreak c = false) ∧ l ≠ []) :
    splitlines (joinWith 10 ms) = ms := by
  unfold splitlines
  induction ms with
  | nil => rfl
  | cons l r ih =>
    obtain ⟨hl, hne⟩ := hp l List.mem_cons_self
    cases r with
    | nil =>
      rw [joinWith, ← List.append_nil l, splitlinesAux_append _ _ _ hl, splitlinesAux]
      simp [hne]
    | cons l2 r2 =>
      rw [joinWith, splitlinesAux_append _ _ _ hl, splitlinesAux, if_pos (show isLineBreak 10 = true from rfl),
        ih fun x hx => hp x (List.mem_cons_of_mem _ hx)]
      · simp
      · intro r h13 _; cases h13
      · exact List.cons_ne_nil _ _

theorem splitlinesAux_no_break (s cur : Str) (hc : ∀ c ∈ cur, isLineBreak c = false) :
    ∀ l ∈ splitlinesAux s cur, ∀ c ∈ l, isLineBreak c = false := by
  have hr {cur : Str} (hc : ∀ c ∈ cur, isLineBreak c = false) : ∀ c ∈ cur.reverse, isLineBreak c = false :=
    fun c h => hc c (List.mem_reverse.mp h)
  fun_induction splitlinesAux s cur with
  | case1 => nofun
  | case2 => exact List.forall_mem_singleton.mpr (hr hc)
  | case3 rest cur ih => exact List.forall_mem_cons.mpr ⟨hr hc, ih nofun⟩
  | case4 _ _ _ _ _ ih => exact List.forall_mem_cons.mpr ⟨hr hc, ih nofun⟩
  | case5 c _ cur _ hbrk ih => exact ih (List.forall_mem_cons.mpr ⟨by simpa using hbrk, hc⟩)

theorem splitlines_no_break (v : Str) : ∀ l ∈ splitlines v, 10 ∉ l ∧ 13 ∉ l := fun l hl =>
  have h := splitlinesAux_no_break v [] nofun l hl
  ⟨fun h10 => (nomatch h 10 h10), fun h13 => (nomatch h 13 h13)⟩

theorem toDec_digits (n : Nat) : ∀ c ∈ toDec n, 48 ≤ c ∧ c ≤ 57 := by
  suffices h : ∀ fuel m, ∀ c ∈ digitsRev fuel m, 48 ≤ c ∧ c ≤ 57 from
    fun c hc => h _ _ c (List.mem_reverse.mp hc)
  intro fuel m
  fun_induction digitsRev fuel m with
  | case1 => nofun
  | case2 f m ih =>
    refine List.forall_mem_cons.mpr ⟨by omega, ?_⟩
    split
    · nofun
    · exact ih

theorem toDec_ne_nil (n : Nat) : toDec n ≠ [] := by
  simp [toDec, digitsRev]

theorem toDecInt_chars (i : Int) : ∀ c ∈ toDecInt i, c = 45 ∨ (48 ≤ c ∧ c ≤ 57) := by
  cases i with
  | ofNat n => exact fun c hc => .inr (toDec_digits n c hc)
  | negSucc n => exact List.forall_mem_cons.mpr ⟨.inl rfl, fun c hc => .inr (toDec_digits _ c hc)⟩

/-! `encodeCp` on each of its ranges; `n / 4096` and `n / 262144` are written as repeated division by 64, one
    six-bit group taken off at a time -/

theorem encodeCp_one {n : Nat} (h : n < 0x80) : encodeCp n = some [n] := by
  rw [encodeCp, if_pos h]

theorem encodeCp_two {n : Nat} (h : 0x80 ≤ n) (h' : n < 0x800) :
    encodeCp n = some [0xC0 + n / 64, 0x80 + n % 64] := by
  rw [encodeCp, if_neg (by omega), if_pos h']

theorem encodeCp_three {n : Nat} (h : 0x800 ≤ n) (h' : n < 0x10000) (hs : n < 0xD800 ∨ 0xE000 ≤ n) :
    encodeCp n = some [0xE0 + n / 64 / 64, 0x80 + n / 64 % 64, 0x80 + n % 64] := by
  rw [encodeCp, if_neg (by omega), if_neg (by omega), if_neg (by omega), if_neg (by omega), if_pos h']
  simp only [Nat.div_div_eq_div_mul]

theorem encodeCp_four {n : Nat} (h : 0x10000 ≤ n) (h' : n < 0x110000) :
    encodeCp n = some [0xF0 + n / 64 / 64 / 64, 0x80 + n / 64 / 64 % 64, 0x80 + n / 64 % 64, 0x80 + n % 64] := by
  rw [encodeCp, if_neg (by omega), if_neg (by omega), if_neg (by omega), if_neg (by omega), if_neg (by omega),
    if_pos h']
  simp only [Nat.div_div_eq_div_mul]

theorem encodeCp_esc {b : Nat} (h : 0x80 ≤ b) (h' : b < 256) : encodeCp (escByte b) = some [b] := by
  rw [encodeCp, escByte, if_neg (by omega), if_neg (by omega), if_pos (by omega), Nat.add_sub_cancel_left]

theorem isCont_iff {b : Nat} : isCont b = true ↔ ∃ p, p < 64 ∧ b = 0x80 + p := by
  simp only [isCont, Bool.and_eq_true, decide_eq_true_eq]
  exact ⟨fun h => ⟨b - 0x80, by omega⟩, fun ⟨p, h⟩ => by omega⟩

theorem six_div {x p : Nat} (h : p < 64) : (x * 64 + p) / 64 = x := by
  rw [Nat.mul_comm, Nat.mul_add_div (by decide), Nat.div_eq_of_lt h, Nat.add_zero]

theorem six_mod {x p : Nat} (h : p < 64) : (x * 64 + p) % 64 = p := by
  rw [Nat.mul_comm, Nat.mul_add_mod, Nat.mod_eq_of_lt h]

/-! The scalar `decodeOne` computes from a well-formed sequence encodes to that sequence.  With the bytes
    replaced by their payloads (`omega` is slow on the truncated subtractions of the decoder) the scalar is
    the lead byte's payload with one group appended per continuation byte, and `encodeCp` takes the groups
    off again, one `six_mod`/`six_div` per byte. -/

theorem utf8_two {b0 b1 : Nat} (h0 : 0xC2 ≤ b0 ∧ b0 ≤ 0xDF) (h1 : isCont b1 = true) :
    encodeCp ((b0 - 0xC0) * 64 + (b1 - 0x80)) = some [b0, b1] := by
  obtain ⟨p1, hp1, rfl⟩ := isCont_iff.mp h1
  obtain ⟨a, rfl⟩ : ∃ a, b0 = 0xC0 + a := ⟨b0 - 0xC0, by omega⟩
  rw [Nat.add_sub_cancel_left, Nat.add_sub_cancel_left, encodeCp_two (by omega) (by omega),
    six_div hp1, six_mod hp1]

theorem utf8_three {b0 b1 b2 : Nat} (h0 : 0xE0 ≤ b0 ∧ b0 ≤ 0xEF) (h1 : isCont b1 = true) (h2 : isCont b2 = true)
    (hlo : b0 ≠ 0xE0 ∨ 0xA0 ≤ b1) (hsur : b0 ≠ 0xED ∨ b1 ≤ 0x9F) :
    encodeCp ((b0 - 0xE0) * 4096 + (b1 - 0x80) * 64 + (b2 - 0x80)) = some [b0, b1, b2] := by
  obtain ⟨p1, hp1, rfl⟩ := isCont_iff.mp h1
  obtain ⟨p2, hp2, rfl⟩ := isCont_iff.mp h2
  obtain ⟨a, rfl⟩ := Nat.exists_eq_add_of_le h0.1
  simp only [Nat.add_sub_cancel_left]
  rw [encodeCp_three (by omega) (by omega) (by omega),
    show a * 4096 + p1 * 64 + p2 = (a * 64 + p1) * 64 + p2 by simp only [Nat.add_mul, Nat.mul_assoc],
    six_mod hp2, six_div hp2, six_mod hp1, six_div hp1]

theorem utf8_four {b0 b1 b2 b3 : Nat} (h0 : 0xF0 ≤ b0 ∧ b0 ≤ 0xF4) (h1 : isCont b1 = true) (h2 : isCont b2 = true)
    (h3 : isCont b3 = true) (hlo : b0 ≠ 0xF0 ∨ 0x90 ≤ b1) (hhi : b0 ≠ 0xF4 ∨ b1 ≤ 0x8F) :
    encodeCp ((b0 - 0xF0) * 262144 + (b1 - 0x80) * 4096 + (b2 - 0x80) * 64 + (b3 - 0x80)) =
      some [b0, b1, b2, b3] := by
  obtain ⟨p1, hp1, rfl⟩ := isCont_iff.mp h1
  obtain ⟨p2, hp2, rfl⟩ := isCont_iff.mp h2
  obtain ⟨p3, hp3, rfl⟩ := isCont_iff.mp h3
  obtain ⟨a, rfl⟩ := Nat.exists_eq_add_of_le h0.1
  simp only [Nat.add_sub_cancel_left]
  rw [encodeCp_four (by omega) (by omega),
    show a * 262144 + p1 * 4096 + p2 * 64 + p3 = ((a * 64 + p1) * 64 + p2) * 64 + p3 by
      simp only [Nat.add_mul, Nat.mul_assoc],
    six_mod hp3, six_div hp3, six_mod hp2, six_div hp2, six_mod hp1, six_div hp1]

theorem encodeCp_decodeOne (b0 : Nat) (rest : List Nat) (h0 : b0 < 256) :
    encodeCp (decodeOne b0 rest).1 = some (b0 :: rest.take ((decodeOne b0 rest).2 - 1)) := by
  -- the four accepting branches of `decodeOne`; every other branch escapes `b0` and consumes one byte
  fun_cases decodeOne b0 rest
  case case1 h => exact encodeCp_one h
  case case2 h _ _ hc => exact utf8_two h hc
  case case5 h _ _ _ hc =>
    simp only [Bool.and_eq_true, Bool.or_eq_true, bne_iff_ne, decide_eq_true_eq] at hc
    exact utf8_three h hc.1.1.1 hc.1.1.2 hc.1.2 hc.2
  case case8 h _ _ _ _ hc =>
    simp only [Bool.and_eq_true, Bool.or_eq_true, bne_iff_ne, decide_eq_true_eq] at hc
    exact utf8_four h hc.1.1.1.1 hc.1.1.1.2 hc.1.1.2 hc.1.2 hc.2
  all_goals exact encodeCp_esc (Nat.le_of_not_lt ‹¬b0 < 128›) h0

theorem encode_decode (bs : List Nat) (h : ∀ b ∈ bs, b < 256) : encodeSE (decodeSE bs) = some bs := by
  fun_induction decodeSE bs with
  | case1 => rfl
  | case2 b0 rest ih =>
    rw [encodeSE, encodeCp_decodeOne b0 rest (h b0 List.mem_cons_self),
      ih fun b hb => h b (List.mem_cons_of_mem _ (List.mem_of_mem_drop hb))]
    simp [List.take_append_drop]

theorem encodeCp_ne_nil {c : Nat} {a : Bytes} (h : encodeCp c = some a) : a ≠ [] := by
  rintro rfl
  revert h
  unfold encodeCp
  exact ite_ne nofun (ite_ne nofun (ite_ne nofun (ite_ne nofun (ite_ne nofun (ite_ne nofun nofun)))))

theorem encodeSE_cons_eq_some {c : Nat} {cs : Str} {bs : Bytes} :
    encodeSE (c :: cs) = some bs ↔ ∃ a b, encodeCp c = some a ∧ encodeSE cs = some b ∧ bs = a ++ b := by
  rw [encodeSE]
  cases encodeCp c <;> cases encodeSE cs <;> simp [eq_comm]

theorem encodeSE_isSome (s : Str) : (encodeSE s).isSome = s.all fun c => (encodeCp c).isSome := by
  induction s with
  | nil => rfl
  | cons c cs ih =>
    rw [List.all_cons, ← ih, encodeSE]
    cases encodeCp c <;> cases encodeSE cs <;> rfl

theorem encodeSE_ne_nil (s : Str) (bs : Bytes) (h : encodeSE s = some bs) (hs : s ≠ []) : bs ≠ [] := by
  cases s with
  | nil => exact absurd rfl hs
  | cons c cs =>
    obtain ⟨a, b, ha, _, rfl⟩ := encodeSE_cons_eq_some.mp h
    exact fun e => encodeCp_ne_nil ha (List.append_eq_nil_iff.mp e).1

theorem menuField_clean (s : Str) : ∀ c ∈ menuField s, c ≠ 9 ∧ c ≠ 13 ∧ c ≠ 10 := by
  intro c hc
  obtain ⟨a, -, rfl⟩ := List.mem_map.mp hc
  split
  · decide
  · rename_i h; simpa only [not_or] using h

end Pyg
