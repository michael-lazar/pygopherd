import PygVerif.Model.Doc
import PygVerif.Lemmas.Str
/-!
# Lemmas/Doc — the copy loop reproduces its input; html escape is invertible and inert

`html.escape` works character by character (`htmlEscape_eq_flatMap`): a character is copied, and then is none
of those it replaces, or replaced by a row of the table `entities` (`escChar_cases`).  Every fact about the
output is that case distinction plus a check of the five rows (`forall_mem_htmlEscape`).
-/
namespace Pyg

theorem chunks_flatten (n : Nat) (hn : 0 < n) (bs : Bytes) : (chunks n bs).flatten = bs := by
  fun_induction chunks n bs with
  | case1 bs h => exact (h.resolve_left (Nat.ne_of_gt hn)).symm
  | case2 _ _ ih => rw [List.flatten_cons, ih, List.take_append_drop]

theorem chunks_bound (n : Nat) (bs : Bytes) : ∀ c ∈ chunks n bs, c.length ≤ n ∧ c ≠ [] := by
  fun_induction chunks n bs with
  | case1 => nofun
  | case2 bs h ih =>
    exact List.forall_mem_cons.mpr ⟨⟨List.length_take_le _ _, fun e => h (List.take_eq_nil_iff.mp e)⟩, ih⟩

def htmlMeta (c : Nat) : Bool := c == 60 || c == 62 || c == 34 || c == 39

theorem htmlMeta_eq_false_iff {c : Nat} : htmlMeta c = false ↔ c ≠ 60 ∧ c ≠ 62 ∧ c ≠ 34 ∧ c ≠ 39 := by
  simp only [htmlMeta, Bool.or_eq_false_iff, beq_eq_false_iff_ne, ne_eq, and_assoc]

def escChar (q : Bool) (c : Nat) : Str :=
  if c = 38 then [38,97,109,112,59] else if c = 60 then [38,108,116,59] else if c = 62 then [38,103,116,59]
  else if q && c = 34 then [38,113,117,111,116,59] else if q && c = 39 then [38,35,120,50,55,59] else [c]

theorem htmlEscape_eq_flatMap (q : Bool) (s : Str) : htmlEscape q s = s.flatMap (escChar q) := by
  induction s with
  | nil => rfl
  | cons c cs ih => rw [htmlEscape, ih, List.flatMap_cons]; rfl

/-- the five replacements: character, entity -/
def entities : List (Nat × Str) :=
  [(38, [38,97,109,112,59]), (60, [38,108,116,59]), (62, [38,103,116,59]), (34, [38,113,117,111,116,59]),
   (39, [38,35,120,50,55,59])]

theorem escChar_cases (q : Bool) (c : Nat) :
    (escChar q c = [c] ∧ c ≠ 38 ∧ c ≠ 60 ∧ c ≠ 62 ∧ (q = true → c ≠ 34 ∧ c ≠ 39)) ∨ (c, escChar q c) ∈ entities := by
  by_cases h : c = 38 ∨ c = 60 ∨ c = 62 ∨ q = true ∧ (c = 34 ∨ c = 39)
  · right
    rcases h with rfl | rfl | rfl | ⟨rfl, rfl | rfl⟩ <;> decide +revert
  · simp only [not_or, not_and] at h
    refine .inl ⟨?_, h⟩
    obtain ⟨h1, h2, h3, h4⟩ := h
    rw [escChar, if_neg h1, if_neg h2, if_neg h3, if_neg, if_neg]
    · simpa using fun hq => (h4 hq).2
    · simpa using fun hq => (h4 hq).1

theorem forall_mem_htmlEscape {P : Nat → Prop} {q : Bool} {s : Str} (hent : ∀ p ∈ entities, ∀ c ∈ p.2, P c)
    (hs : ∀ c ∈ s, c ≠ 38 ∧ c ≠ 60 ∧ c ≠ 62 ∧ (q = true → c ≠ 34 ∧ c ≠ 39) → P c) : ∀ c ∈ htmlEscape q s, P c := by
  rw [htmlEscape_eq_flatMap, List.forall_mem_flatMap]
  intro x hx
  rcases escChar_cases q x with ⟨e, hp⟩ | hp
  · rw [e, List.forall_mem_singleton]; exact hs x hx hp
  · exact hent _ hp

theorem htmlEscape_no_meta (s : Str) : ∀ c ∈ htmlEscape true s, htmlMeta c = false :=
  forall_mem_htmlEscape (by decide) fun _ _ h => htmlMeta_eq_false_iff.mpr ⟨h.2.1, h.2.2.1, h.2.2.2 rfl⟩

theorem htmlEscape_no_angle (q : Bool) (s : Str) : ∀ c ∈ htmlEscape q s, c ≠ 60 ∧ c ≠ 62 :=
  forall_mem_htmlEscape (by decide) fun _ _ h => ⟨h.2.1, h.2.2.1⟩

theorem htmlUnescape_escChar (x : Nat) (r : Str) : htmlUnescape (escChar true x ++ r) = x :: htmlUnescape r := by
  rcases escChar_cases true x with ⟨e, h38, _⟩ | hp
  · rw [e, List.singleton_append, htmlUnescape]
    all_goals (intro r hx _; exact h38 hx)
  · simp only [entities, List.mem_cons, List.not_mem_nil, or_false, Prod.mk.injEq] at hp
    rcases hp with ⟨rfl, e⟩ | ⟨rfl, e⟩ | ⟨rfl, e⟩ | ⟨rfl, e⟩ | ⟨rfl, e⟩ <;> rw [e] <;> rfl

theorem htmlUnescape_escape (s : Str) : htmlUnescape (htmlEscape true s) = s := by
  rw [htmlEscape_eq_flatMap]
  exact flatMap_leftInverse (by rw [htmlUnescape]) s fun x _ => htmlUnescape_escChar x

theorem paraBreak_eq : paraBreak = [60,47,112,62,10,60,112,62] := by rw [paraBreak, lit_ofList]; rfl

theorem unwml_succ {f : Nat} {s : Str} (hs : s ≠ []) :
    unwml (f + 1) s =
      if isPrefixB paraBreak s then [] :: unwml f (s.drop paraBreak.length)
      else htmlUnescape (takeUntil (· == 10) s) :: unwml f ((dropUntil (· == 10) s).drop 1) := by
  rw [unwml]
  exact hs

/-- reading back one escaped line: it does not start like a paragraph break, and the first line feed is its end -/
theorem unwml_line (f : Nat) (r rest : Str) (h10 : 10 ∉ r) :
    unwml (f + 1) (htmlEscape true r ++ 10 :: rest) = r :: unwml f rest := by
  have hno : ∀ c ∈ htmlEscape true r, (!(c == 10)) = true :=
    forall_mem_htmlEscape (by decide) fun c hc _ => bne_iff_ne.mpr fun e => h10 (e ▸ hc)
  have hpre : isPrefixB paraBreak (htmlEscape true r ++ 10 :: rest) = false := by
    rw [paraBreak_eq]
    cases he : htmlEscape true r with
    | nil => rfl
    | cons c cs =>
      have hc60 : c ≠ 60 := (htmlEscape_no_angle true r c (he ▸ List.mem_cons_self)).1
      rw [List.cons_append, isPrefixB, beq_false_of_ne hc60.symm, Bool.false_and]
  rw [unwml_succ (by simp), hpre, takeUntil_eq, dropUntil_eq, List.takeWhile_append_of_pos hno,
    List.dropWhile_append_of_pos hno]
  simp [htmlUnescape_escape]

/-- **WML conversion is losslessly invertible line by line**: reading the generated body back
    yields every line of the file, right-stripped (what `line.rstrip()` in `handlerwrite`
    discards — trailing white space and the line terminator — is exactly what is lost). -/
theorem unwml_wmlBody (ls : List Str) (h : ∀ l ∈ ls, 10 ∉ rstrip l) (fuel : Nat)
    (hf : ls.length ≤ fuel) : unwml fuel (wmlBody ls) = ls.map rstrip := by
  induction ls generalizing fuel with
  | nil => cases fuel <;> simp [wmlBody, unwml]
  | cons l ls ih =>
    cases fuel with
    | zero => simp at hf
    | succ f =>
      obtain ⟨hl, h⟩ := List.forall_mem_cons.mp h
      rw [wmlBody, List.map_cons, List.flatten_cons, List.map_cons, ← ih h f (Nat.le_of_succ_le_succ hf), wmlLine]
      by_cases hr : rstrip l = []
      · rw [hr, List.isEmpty_nil, if_pos rfl, unwml_succ (by simp [paraBreak_eq]),
          (isPrefixB_iff _ _).mpr (List.prefix_append _ _), if_pos rfl, List.drop_left]; rfl
      · rw [if_neg (by simpa using hr), List.append_assoc, List.singleton_append, unwml_line f _ _ hl]; rfl

end Pyg
