import PygVerif.Model.Umn
import PygVerif.Lemmas.Str

/-!
# The UMN link-file reader refines a reading of the file as blocks of fields

`getLinkItem` / `processLinkFile` (Model/Umn, mirroring `handlers/UMN.py`) are a line-by-line
state machine with fuel.  Here the file format is given as *data*: a file is a list of blocks, a
block a list of `Field`s, a field one `Key=value` line.  The lemmas show that on the rendering of
such a file the state machine does what the documentation says: every line applies its own field
to the entry being built (`Field.apply`), a blank line closes the block, a block starts from a
fresh entry, and the result is one entry per block that has a `Path=`.  Two facts about `Model/Str`
come first: `int(str(n)) == n` for `Port=` / `Numb=` lines (`parseInt_toDecInt`), and `strip()` handing
back unchanged a line that carries no blanks at its ends (`strip_of_noTrail`).
-/

namespace Pyg.Umn

theorem digitsRev_value (fuel n : Nat) (h : n < fuel) :
    (digitsRev fuel n).foldr (fun c a => a * 10 + (c - 48)) 0 = n := by
  induction fuel generalizing n with
  | zero => omega
  | succ k ih =>
    have hq : (if n / 10 = 0 then [] else digitsRev k (n / 10)).foldr (fun c a => a * 10 + (c - 48)) 0 = n / 10 := by
      split
      · next h0 => rw [h0]; rfl
      · exact ih _ (by omega)
    rw [digitsRev, List.foldr_cons, hq, Nat.add_sub_cancel_left, Nat.mul_comm, Nat.div_add_mod]

theorem parseNat_toDec (n : Nat) : parseNat? (toDec n) = some n := by
  have hall : (toDec n).all isAsciiDigit = true := by
    simpa [isAsciiDigit] using toDec_digits n
  have he : (toDec n).isEmpty = false := by simpa using toDec_ne_nil n
  simp only [parseNat?, he, hall, Bool.not_true, Bool.or_self, Bool.false_eq_true, if_false]
  rw [toDec, List.foldl_reverse]
  exact congrArg some (digitsRev_value (n + 1) n (by omega))

theorem parseInt_toDecInt (i : Int) : parseInt? (toDecInt i) = some i := by
  cases i with
  | ofNat n =>
    -- the first character is a digit, so `parseInt?` takes neither of its sign branches
    cases h : toDec n with
    | nil => exact absurd h (toDec_ne_nil n)
    | cons c t =>
      have hc := toDec_digits n c (by rw [h]; exact List.mem_cons_self ..)
      rw [toDecInt, h, parseInt?, ← h, parseNat_toDec]
      · rfl
      · intro r e; cases e; omega
      · intro r e; cases e; omega
  | negSucc n => rw [toDecInt, parseInt?, parseNat_toDec]; rfl

theorem toDecInt_ne_plus (n : Int) : toDecInt n ≠ [43] := fun h => by
  have := toDecInt_chars n 43 (by rw [h]; exact List.mem_cons_self ..); omega

/-- a value no `strip()` shortens at its end -/
def NoTrail (v : Str) : Prop := ∀ c, v.getLast? = some c → isSpace c = false

theorem lstrip_of_head {c : Nat} {t : Str} (h : isSpace c = false) : lstrip (c :: t) = c :: t := by
  simp [lstrip, h]

theorem rstrip_of_noTrail {s : Str} (h : NoTrail s) : rstrip s = s := by
  unfold rstrip
  cases hr : s.reverse with
  | nil => rw [List.reverse_eq_nil_iff.mp hr]; rfl
  | cons a r =>
    have : s.getLast? = some a := by rw [← List.head?_reverse, hr]; rfl
    rw [lstrip_of_head (h a this), ← hr, List.reverse_reverse]

theorem rstrip_nl (s : Str) : rstrip (s ++ [10]) = rstrip s := by
  simp [rstrip, lstrip, show isSpace 10 = true from rfl]

theorem strip_of_noTrail {c : Nat} {t : Str} (hc : isSpace c = false) (h : NoTrail (c :: t)) :
    strip ((c :: t) ++ [10]) = c :: t := by
  rw [strip, List.cons_append, lstrip_of_head hc, ← List.cons_append, rstrip_nl, rstrip_of_noTrail h]

theorem strip_line (c : Nat) (t : Str) (l : Nat) (hc : isSpace c = false)
    (hl : (c :: t).getLast? = some l) (hs : isSpace l = false) :
    strip ((c :: t) ++ [10]) = c :: t :=
  strip_of_noTrail hc fun x hx => by rw [hl] at hx; cases hx; exact hs

theorem getLast_key (k : Nat) (v : Str) (c : Nat) (h : (k :: v).getLast? = some c) :
    (v = [] ∧ c = k) ∨ v.getLast? = some c := by
  cases v with
  | nil => left; simpa using h.symm
  | cons a t => right; simpa [List.getLast?_cons_cons] using h

theorem noTrail_cons {k : Nat} {v : Str} (hk : isSpace k = false) (hv : NoTrail v) : NoTrail (k :: v) := by
  intro c hc
  rw [List.getLast?_cons, Option.some.injEq] at hc
  subst hc
  cases h : v.getLast? with
  | none => exact hk
  | some x => exact hv x h

theorem noTrail_cons_cons (a b : Nat) (v : Str) : NoTrail (a :: b :: v) ↔ NoTrail (b :: v) := by
  simp only [NoTrail, List.getLast?_cons_cons]

theorem noTrail_toDecInt (n : Int) : NoTrail (toDecInt n) := by
  intro c hc
  have := toDecInt_chars n c (List.mem_of_getLast? hc)
  simp only [isSpace, Bool.or_eq_false_iff, Bool.and_eq_false_iff, decide_eq_false_iff_not, beq_eq_false_iff_ne]
  omega

/-- one `Key=value` line of a link file -/
inductive Field
  | type (t : Nat)
  | name (v : Str)
  | path (v : Str)
  | host (v : Str)
  | hostPlus
  | port (n : Int)
  | portPlus
  | numb (n : Int)
  | admin (v : Str)
  | url (v : Str)
  | ttl (v : Str)
  /-- `Abstract=` on one line (no continuation lines) -/
  | abstract (v : Str)
  /-- a `#` line: skipped as long as the block has no `Path=` yet (after one, it closes the block) -/
  | comment (v : Str)

/-- the line as it stands in the file, without its line end -/
def Field.text : Field → Str
  | .type t => [84, 121, 112, 101, 61, t]
  | .name v => 78 :: 97 :: 109 :: 101 :: 61 :: v
  | .path v => 80 :: 97 :: 116 :: 104 :: 61 :: v
  | .host v => 72 :: 111 :: 115 :: 116 :: 61 :: v
  | .hostPlus => [72, 111, 115, 116, 61, 43]
  | .port n => 80 :: 111 :: 114 :: 116 :: 61 :: toDecInt n
  | .portPlus => [80, 111, 114, 116, 61, 43]
  | .numb n => 78 :: 117 :: 109 :: 98 :: 61 :: toDecInt n
  | .admin v => 65 :: 100 :: 109 :: 105 :: 110 :: 61 :: v
  | .url v => 85 :: 82 :: 76 :: 61 :: v
  | .ttl v => 84 :: 84 :: 76 :: 61 :: v
  | .abstract v => 65 :: 98 :: 115 :: 116 :: 114 :: 97 :: 99 :: 116 :: 61 :: v
  | .comment v => 35 :: v

/-- what the documentation asks of a value: no blanks at its end; `+` is not a host name; an abstract does not end in
    a backslash (that would continue it on the next line) -/
def Field.Ok : Field → Prop
  | .type t => isSpace t = false
  | .name v => NoTrail v
  | .path v => NoTrail v
  | .host v => NoTrail v ∧ v ≠ [43]
  | .admin v => NoTrail v
  | .url v => NoTrail v
  | .ttl v => NoTrail v
  | .abstract v => NoTrail v ∧ v.getLast? ≠ some 92
  | .comment v => NoTrail v
  | _ => True

def pathName (p0 : Str) : Str := if p0.getLast? = some 47 then p0.dropLast else p0

/-- `./x` and `~/x`: a file of this directory, to be merged with its listing entry -/
def isDotPath (p0 : Str) : Bool := p0.length ≥ 2 && (p0.take 2 == lit "./" || p0.take 2 == lit "~/")

/-- any other relative path: made absolute when the block is closed (if it names no other server) -/
def isRelPath (p0 : Str) : Bool :=
  !(pathName p0).isEmpty && (pathName p0).head? != some 47 && !isPrefixB (lit "URL:") (pathName p0)

/-- `Path=` as the reader does it -/
def pathLe (base : Str) (le : LinkEntry) (p0 : Str) : LinkEntry :=
  if isDotPath p0 then
    { le with e := { le.e with selector := base ++ [47] ++ (pathName p0).drop 2 }, needsmerge := true }
  else if isRelPath p0 then
    { le with e := { le.e with selector := pathName p0 }, needsabspath := true }
  else { le with e := { le.e with selector := pathName p0 } }

/-- `Path=` said flatly: the selector is set, the two flags are only ever raised -/
theorem pathLe_eq (base : Str) (le : LinkEntry) (p0 : Str) :
    pathLe base le p0 =
      { le with
        e := { le.e with selector := if isDotPath p0 then base ++ [47] ++ (pathName p0).drop 2 else pathName p0 },
        needsmerge := isDotPath p0 || le.needsmerge,
        needsabspath := (!isDotPath p0 && isRelPath p0) || le.needsabspath } := by
  unfold pathLe
  cases isDotPath p0 <;> cases isRelPath p0 <;> simp

/-- `Abstract=`: an empty value sets nothing -/
def setAbstract (le : LinkEntry) (v : Str) : LinkEntry :=
  if v.isEmpty then le else { le with e := { le.e with ea := eaSet le.e.ea (lit "ABSTRACT") v } }

theorem setAbstract_eq (le : LinkEntry) (v : Str) :
    setAbstract le v =
      { le with e := { le.e with ea := if v.isEmpty then le.e.ea else eaSet le.e.ea (lit "ABSTRACT") v } } := by
  unfold setAbstract; split <;> rfl

/-- the effect of a field on the entry being built -/
def Field.apply (base : Str) (st : LinkState) : Field → LinkState
  | .type t => { st with le := { st.le with e := { st.le.e with type := some [t] } } }
  | .name v => { st with le := { st.le with e := { st.le.e with name := some v } } }
  | .path p0 => { le := pathLe base st.le p0, donePath := true }
  | .host v => { st with le := { st.le with e := { st.le.e with host := some v } } }
  | .port n => { st with le := { st.le with e := { st.le.e with port := some n } } }
  | .numb n => { st with le := { st.le with e := { st.le.e with num := some n } } }
  | .abstract v => { st with le := setAbstract st.le v }
  | _ => st

theorem Field.strip_text (f : Field) (hf : f.Ok) : strip (f.text ++ [10]) = f.text := by
  have h61 : isSpace 61 = false := by decide
  -- no blank in the key: the line ends as its value does, or with the `=` (the `#`) before an empty value
  cases f <;> refine strip_of_noTrail (by decide) ?_
  case comment v => exact noTrail_cons (by decide) hf
  all_goals simp only [noTrail_cons_cons]
  case name v | path v | admin v | url v | ttl v => exact noTrail_cons h61 hf
  case host v | abstract v => exact noTrail_cons h61 hf.1
  case port n | numb n => exact noTrail_cons h61 (noTrail_toDecInt n)
  case type t => exact noTrail_cons hf nofun
  case hostPlus | portPlus => exact noTrail_cons (by decide) nofun

theorem lits :
    lit "Type=" = [84, 121, 112, 101, 61] ∧ lit "Name=" = [78, 97, 109, 101, 61] ∧
    lit "Path=" = [80, 97, 116, 104, 61] ∧ lit "Host=" = [72, 111, 115, 116, 61] ∧
    lit "Port=" = [80, 111, 114, 116, 61] ∧ lit "Numb=" = [78, 117, 109, 98, 61] ∧
    lit "Abstract=" = [65, 98, 115, 116, 114, 97, 99, 116, 61] ∧ lit "Admin=" = [65, 100, 109, 105, 110, 61] ∧
    lit "URL=" = [85, 82, 76, 61] ∧ lit "TTL=" = [84, 84, 76, 61] := by
  repeat rw [lit_ofList]
  decide

theorem getLinkItem_field (base : Str) (fuel : Nat) (st : LinkState) (f : Field) (hf : f.Ok) (rest : List Str)
    (hc : ∀ v, f = .comment v → st.donePath = false) :
    getLinkItem base (fuel + 1) st ((f.text ++ [10]) :: rest) = getLinkItem base fuel (f.apply base st) rest := by
  have hs := f.strip_text hf
  obtain ⟨l1, l2, l3, l4, l5, l6, l7, l8, l9, l10⟩ := lits
  rw [getLinkItem]
  simp only [hs, l1, l2, l3, l4, l5, l6, l7, l8, l9, l10]
  -- The tests on the key are closed computations, so each case is the model's branch for that key up to reduction:
  -- `rfl` where the value plays no part, otherwise the branch is named with `show` and its test rewritten.
  cases f with
  | host v =>
    show getLinkItem base fuel (if v == [43] then st else (Field.host v).apply base st) rest = _
    rw [if_neg (by simpa using hf.2)]
  | port n =>
    show (if toDecInt n == [43] then getLinkItem base fuel st rest else
          match parseInt? (toDecInt n) with
          | none => none
          | some k => getLinkItem base fuel ((Field.port k).apply base st) rest) = _
    rw [if_neg (by simpa using toDecInt_ne_plus n), parseInt_toDecInt]
  | numb n =>
    show (match parseInt? (toDecInt n) with
          | none => getLinkItem base fuel st rest
          | some k => getLinkItem base fuel ((Field.numb k).apply base st) rest) = _
    rw [parseInt_toDecInt]
  | comment v =>
    show (if st.donePath then _ else getLinkItem base fuel st rest) = _
    rw [hc v rfl]; rfl
  | path v =>
    -- the reader tests the length of the whole line, `isDotPath` that of the value
    have hl : decide ((Field.path v).text.length ≥ 7) = decide (v.length ≥ 2) := by simp [Field.text]
    show getLinkItem base fuel { le := if (decide ((Field.path v).text.length ≥ 7) && _) = true then _ else _, donePath := true } rest = _
    rw [hl]; rfl
  | abstract v =>
    have hr : readAbstract (rest.length + 1) [] v rest = (v, rest) := by
      simp only [readAbstract, hf.2, if_false, List.nil_append]
    show (match readAbstract (rest.length + 1) [] v rest with
          | (a, rest') => getLinkItem base fuel
              (if a.isEmpty then st else { st with le := { st.le with e := { st.le.e with ea := eaSet st.le.e.ea (lit "ABSTRACT") a } } }) rest') = _
    rw [hr]
    cases v <;> rfl
  | _ => rfl

/-- what a closed block yields (`finish` inside `getLinkItem`): nothing without a path; a relative
    path on this server is made absolute below the directory -/
def finishEntry (base : Str) (st : LinkState) : Option LinkEntry :=
  if st.donePath then
    some (if st.le.needsabspath && st.le.e.host.isNone && st.le.e.port.isNone then
        { st.le with e := { st.le.e with selector := normpathAbs (base ++ [47] ++ st.le.e.selector) } }
      else st.le)
  else none

def renderFields (fs : List Field) : List Str := fs.map fun f => f.text ++ [10]

/-- a block is its lines and the blank line that closes it -/
def renderBlock (fs : List Field) : List Str := renderFields fs ++ [[10]]

def renderFile (bs : List (List Field)) : List Str := bs.flatMap renderBlock

def applyAll (base : Str) (st : LinkState) (fs : List Field) : LinkState := fs.foldl (Field.apply base) st

/-- the entry of a block: its fields applied, in order, to a fresh entry -/
def blockEntry (dirSel base : Str) (cap : Option Str) (fs : List Field) : Option LinkEntry :=
  finishEntry base (applyAll base (freshLink dirSel cap) fs)

def Field.isPath : Field → Bool
  | .path _ => true
  | _ => false

/-- comment lines stand before the block's `Path=` line (a `#` line after it closes the block: it is then not a
    line *of* the block); `done` = a path is already known when the lines start (a `.cap` file) -/
def WellPlaced (done : Bool) : List Field → Prop
  | [] => True
  | f :: fs => (match f with | .comment _ => done = false | _ => True) ∧ WellPlaced (done || f.isPath) fs

theorem apply_donePath (base : Str) (st : LinkState) (f : Field) :
    (f.apply base st).donePath = (st.donePath || f.isPath) := by
  cases f <;> simp [Field.apply, Field.isPath]

theorem applyAll_donePath (base : Str) (fs : List Field) (st : LinkState) :
    (applyAll base st fs).donePath = (st.donePath || fs.any Field.isPath) := by
  induction fs generalizing st with
  | nil => simp [applyAll]
  | cons f fs ih => rw [applyAll, List.foldl_cons, ← applyAll, ih, apply_donePath, List.any_cons, Bool.or_assoc]

theorem getLinkItem_fields (base : Str) (fs : List Field) (hfs : ∀ f ∈ fs, f.Ok) (fuel : Nat) (st : LinkState)
    (hw : WellPlaced st.donePath fs) (rest : List Str) :
    getLinkItem base (fuel + fs.length) st (renderFields fs ++ rest) =
      getLinkItem base fuel (applyAll base st fs) rest := by
  induction fs generalizing st with
  | nil => rfl
  | cons f fs ih =>
    obtain ⟨hf, hfs⟩ := List.forall_mem_cons.mp hfs
    have hc : ∀ v, f = .comment v → st.donePath = false := fun v hv => by subst hv; exact hw.1
    rw [List.length_cons, ← Nat.add_assoc, renderFields, List.map_cons, List.cons_append,
      getLinkItem_field base _ st f hf _ hc]
    exact ih hfs _ (by rw [apply_donePath]; exact hw.2)

theorem getLinkItem_blank (base : Str) (fuel : Nat) (st : LinkState) (rest : List Str) :
    getLinkItem base (fuel + 1) st ([10] :: rest) = some (.cont, finishEntry base st, rest) := by
  obtain ⟨le, _ | _⟩ := st <;> rfl

theorem getLinkItem_eof (base : Str) (fuel : Nat) (st : LinkState) :
    getLinkItem base (fuel + 1) st [] = some (.stop, finishEntry base st, []) := by
  obtain ⟨le, _ | _⟩ := st <;> rfl

theorem getLinkItem_block (base : Str) (fs : List Field) (hfs : ∀ f ∈ fs, f.Ok) (fuel : Nat) (st : LinkState)
    (hw : WellPlaced st.donePath fs) (rest : List Str) :
    getLinkItem base (fuel + 1 + fs.length) st (renderBlock fs ++ rest) =
      some (.cont, finishEntry base (applyAll base st fs), rest) := by
  simp only [renderBlock, List.append_assoc, List.singleton_append]
  rw [getLinkItem_fields base fs hfs _ _ hw]
  exact getLinkItem_blank base fuel _ rest

/-- a block that ends with the file (no blank line after it) -/
theorem getLinkItem_last_block (base : Str) (fs : List Field) (hfs : ∀ f ∈ fs, f.Ok) (fuel : Nat) (st : LinkState)
    (hw : WellPlaced st.donePath fs) :
    getLinkItem base (fuel + 1 + fs.length) st (renderFields fs) =
      some (.stop, finishEntry base (applyAll base st fs), []) := by
  rw [← List.append_nil (renderFields fs), getLinkItem_fields base fs hfs _ _ hw]
  exact getLinkItem_eof base fuel _

theorem renderFile_cons (b : List Field) (bs : List (List Field)) :
    renderFile (b :: bs) = renderBlock b ++ renderFile bs := by
  simp [renderFile]

theorem renderBlock_length (fs : List Field) : (renderBlock fs).length = fs.length + 1 := by
  simp [renderBlock, renderFields]

/-- every block takes at least its closing line -/
theorem length_le_renderFile (bs : List (List Field)) : bs.length ≤ (renderFile bs).length := by
  induction bs with
  | nil => exact Nat.le_refl 0
  | cons b bs ih => rw [renderFile_cons, List.length_append, renderBlock_length, List.length_cons]; omega

/-- **the reader refines the block reading of the file**: a link file that is a sequence of blocks of
    well-formed lines yields, in order, the entry of each block that has a path — each block read
    from a fresh entry, whatever the blocks before it said -/
theorem processLinkFile_blocks (dirSel base : Str) (bs : List (List Field)) (hbs : ∀ b ∈ bs, ∀ f ∈ b, f.Ok)
    (hwp : ∀ b ∈ bs, WellPlaced false b) (fuel : Nat) (hfuel : bs.length < fuel) :
    processLinkFile dirSel base none fuel (renderFile bs) = some (bs.filterMap (blockEntry dirSel base none)) := by
  induction fuel generalizing bs with
  | zero => exact absurd hfuel (Nat.not_lt_zero _)
  | succ k ih =>
    cases bs with
    | nil => rfl
    | cons b bs =>
      obtain ⟨hb, hbs⟩ := List.forall_mem_cons.mp hbs
      obtain ⟨hw, hwp⟩ := List.forall_mem_cons.mp hwp
      have hl : (renderFile (b :: bs)).length + 1 = ((renderFile bs).length + 1) + 1 + b.length := by
        rw [renderFile_cons, List.length_append, renderBlock_length]; omega
      rw [processLinkFile, hl, renderFile_cons, getLinkItem_block base b hb _ _ hw]
      simp only
      rw [ih bs hbs hwp (Nat.lt_of_succ_lt_succ hfuel)]
      simp only [Option.map_some, List.filterMap_cons, blockEntry]
      cases finishEntry base (applyAll base (freshLink dirSel none) b) <;> rfl

/-- a block yields an entry exactly when a path is known: that of the file a `.cap` file is about, or from a `Path=` line -/
theorem blockEntry_isSome (dirSel base : Str) (cap : Option Str) (fs : List Field) :
    (blockEntry dirSel base cap fs).isSome = (cap.isSome || fs.any Field.isPath) := by
  unfold blockEntry finishEntry
  rw [applyAll_donePath]
  cases cap <;> cases fs.any Field.isPath <;> rfl

/-- the key a line sets (0: `Host=+`, `Port=+`, `Admin=`, `URL=`, `TTL=` and comment lines set nothing) -/
def Field.key : Field → Nat
  | .type _ => 1 | .name _ => 2 | .path _ => 3 | .host _ => 4 | .port _ => 5 | .numb _ => 6 | .abstract _ => 7 | _ => 0

theorem apply_of_key_zero (base : Str) (st : LinkState) (f : Field) (h : f.key = 0) : f.apply base st = st := by
  cases f <;> first | rfl | cases h

/-- two lines that each write a field of their own; one order of the keys is enough, the statement being symmetric.
    Pair by pair: either the keys are not in this order (by evaluation), or both sides become, with `pathLe_eq` and
    `setAbstract_eq`, the same chain of record updates to different fields, which `simp only` closes by `rfl` -/
theorem apply_comm_lt (base : Str) (st : LinkState) (f g : Field) (h0 : f.key ≠ 0) (h : f.key < g.key) :
    g.apply base (f.apply base st) = f.apply base (g.apply base st) := by
  cases f <;> first | exact absurd rfl h0 | skip
  all_goals cases g <;> first
    | exact absurd h (Nat.not_lt_of_le (Nat.le_of_ble_eq_true rfl))
    | simp only [Field.apply, pathLe_eq, setAbstract_eq]

theorem apply_comm (base : Str) (st : LinkState) (f g : Field) (h : f.key ≠ g.key ∨ f.key = 0) :
    (g.apply base (f.apply base st)) = (f.apply base (g.apply base st)) := by
  by_cases hf : f.key = 0
  · rw [apply_of_key_zero base _ f hf, apply_of_key_zero base _ f hf]
  by_cases hg : g.key = 0
  · rw [apply_of_key_zero base _ g hg, apply_of_key_zero base _ g hg]
  rcases Nat.lt_or_gt_of_ne (h.resolve_right hf) with hlt | hgt
  · exact apply_comm_lt base st f g hf hlt
  · exact (apply_comm_lt base st g f hg hgt).symm

end Pyg.Umn
