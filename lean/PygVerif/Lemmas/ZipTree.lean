import PygVerif.Model.ZipTree
/-!
# Lemmas/ZipTree — the index's look-up is path resolution in the tree it stands for

Both maps of an `Index` are association lists read by `(l.find? (·.1 = a)).map (·.2)`; the `assoc_*` lemmas say
what that reads.
-/
namespace Pyg.Zip

section Assoc
variable {α β : Type} [DecidableEq α] {l : List (α × β)} {a : α}

theorem assoc_mem {b : β} (h : (l.find? (·.1 = a)).map (·.2) = some b) : (a, b) ∈ l := by
  obtain ⟨x, hx, rfl⟩ := Option.map_eq_some_iff.mp h
  have ha : x.1 = a := by simpa using List.find?_some hx
  exact ha ▸ List.mem_of_find?_eq_some hx

theorem assoc_isSome : ((l.find? (·.1 = a)).map (·.2)).isSome = true ↔ ∃ b, (a, b) ∈ l := by
  rw [Option.isSome_map, List.find?_isSome]
  constructor
  · rintro ⟨x, hx, ha⟩
    exact ⟨x.2, by rw [← of_decide_eq_true ha]; exact hx⟩
  · rintro ⟨b, hb⟩
    exact ⟨(a, b), hb, decide_eq_true rfl⟩

end Assoc

theorem assoc_setNode (nodes : List (Path × Kind)) (p q : Path) (k : Kind) :
    ((setNode nodes p k).find? (·.1 = q)).map (·.2) =
      if q = p then some k else (nodes.find? (·.1 = q)).map (·.2) := by
  induction nodes with
  | nil => simp [setNode, eq_comm]
  | cons x r ih =>
    rw [setNode]
    by_cases hx : x.1 = p
    · by_cases hq : q = p
      · simp [hx, hq]
      · have : ¬ p = q := fun e => hq e.symm
        simp [hx, hq, this]
    · by_cases hxq : x.1 = q
      · have : ¬ q = p := fun e => hx (hxq.trans e)
        simp [hxq, this]
      · simp [hx, hxq, ih]

theorem assoc_addDirIfAbsent (nodes : List (Path × Kind)) (p q : Path) :
    ((addDirIfAbsent nodes p).find? (·.1 = q)).map (·.2) =
      ((nodes.find? (·.1 = q)).map (·.2)).or (if q = p then some .dir else none) := by
  unfold addDirIfAbsent
  split
  · rename_i h
    by_cases hq : q = p
    · rw [hq, Option.or_of_isSome (by rw [Option.isSome_map]; exact h)]
    · simp [hq]
  · simp [List.find?_append, Option.map_or, List.find?_singleton, eq_comm]

theorem ensureDirs_keeps (nodes : List (Path × Kind)) (pre cs q : Path)
    (h : ((nodes.find? (·.1 = q)).map (·.2)).isSome = true) :
    ((ensureDirs nodes pre cs).find? (·.1 = q)).map (·.2) = (nodes.find? (·.1 = q)).map (·.2) := by
  induction cs generalizing nodes pre with
  | nil => rfl
  | cons c r ih =>
    have hadd := assoc_addDirIfAbsent nodes (pre ++ [c]) q
    rw [Option.or_of_isSome h] at hadd
    rw [ensureDirs, ih _ _ (hadd ▸ h), hadd]

theorem kind?_isSome_iff {ix : Index} {p : Path} (hp : p ≠ []) :
    (ix.kind? p).isSome = true ↔ ∃ k, (p, k) ∈ ix.nodes := by
  rw [Index.kind?, if_neg hp]
  exact assoc_isSome

theorem alias?_mem {ix : Index} {p t : Path} (h : ix.alias? p = some t) : (p, t) ∈ ix.aliases :=
  assoc_mem h

theorem alias?_isSome_iff {ix : Index} {p : Path} : (ix.alias? p).isSome = true ↔ ∃ t, (p, t) ∈ ix.aliases :=
  assoc_isSome

theorem alias?_of_nil {ix : Index} (h : ix.aliases = []) (p : Path) : ix.alias? p = none := by
  rw [Index.alias?, h]; rfl

theorem mem_lastBelow {β : Type} (l : List (Path × β)) (p : Path) (c : Str) :
    c ∈ l.filterMap (fun (q, _) => if q.dropLast = p ∧ q ≠ [] then q.getLast? else none) ↔
      ∃ b, (p ++ [c], b) ∈ l := by
  rw [List.mem_filterMap]
  constructor
  · rintro ⟨⟨q, b⟩, hm, hq⟩
    dsimp only at hq
    split at hq
    · rename_i hc
      obtain ⟨ys, rfl⟩ := List.getLast?_eq_some_iff.mp hq
      rw [List.dropLast_concat] at hc
      exact ⟨b, hc.1 ▸ hm⟩
    · cases hq
  · rintro ⟨b, hm⟩
    exact ⟨(p ++ [c], b), hm, by simp⟩

theorem mem_names_iff (ix : Index) (p : Path) (c : Str) :
    c ∈ names ix p ↔ (∃ k, (p ++ [c], k) ∈ ix.nodes) ∨ ∃ t, (p ++ [c], t) ∈ ix.aliases := by
  unfold names
  rw [List.mem_eraseDups, List.mem_append, List.mem_filter, Bool.not_eq_true', List.contains_eq_mem,
    decide_eq_false_iff_not, mem_lastBelow, mem_lastBelow]
  -- a link entry is listed unless a node of that name is
  by_cases hk : ∃ k, (p ++ [c], k) ∈ ix.nodes <;> simp [hk]

theorem child_isSome_iff (ix : Index) (p : Path) (c : Str) :
    (child ix p c).isSome = true ↔ (∃ k, (p ++ [c], k) ∈ ix.nodes) ∨ ∃ t, (p ++ [c], t) ∈ ix.aliases := by
  rw [← kind?_isSome_iff (by simp), ← alias?_isSome_iff, child]
  cases ix.alias? (p ++ [c]) with
  | some t => simp
  | none => by_cases h : (ix.kind? (p ++ [c])).isSome = true <;> simp [h]

theorem mem_names_iff_child (ix : Index) (p : Path) (c : Str) :
    c ∈ names ix p ↔ (child ix p c).isSome = true :=
  (mem_names_iff ix p c).trans (child_isSome_iff ix p c).symm

theorem child_of_no_alias {ix : Index} (h : ix.aliases = []) (p : Path) (c : Str) :
    child ix p c = if (ix.kind? (p ++ [c])).isSome then some (p ++ [c]) else none := by
  rw [child, alias?_of_nil h]

theorem walk_cons (ix : Index) (p : Path) (c : Str) (cs : Path) :
    walk ix p (c :: cs) = if ix.kind? p = some .dir then (child ix p c).bind (fun t => walk ix t cs) else none := by
  rw [walk, child]
  by_cases hk : ix.kind? p = some Kind.dir
  · rw [if_pos hk, hk, if_neg (by simp)]
    dsimp only
    cases ix.alias? (p ++ [c]) with
    | some t => rfl
    | none => dsimp only; split <;> rfl
  · rw [if_neg hk, if_pos (by simpa using hk)]

theorem walk_append (ix : Index) (xs ys : Path) (p : Path) :
    walk ix p (xs ++ ys) = (walk ix p xs).bind fun t => walk ix t ys := by
  induction xs generalizing p with
  | nil => rfl
  | cons c cs ih =>
    rw [List.cons_append, walk_cons, walk_cons]
    split
    · cases child ix p c with
      | none => rfl
      | some t => exact ih t
    · rfl

theorem walk_self (ix : Index) (p : Path) (hal : ∀ i, i < p.length → ix.alias? (p.take (i + 1)) = none)
    (hdirs : ∀ i, i < p.length → ix.kind? (p.take i) = some .dir) (hp : (ix.kind? p).isSome = true) :
    walk ix [] p = some p := by
  have hnode : ∀ i, i ≤ p.length → (ix.kind? (p.take i)).isSome = true := by
    intro i hi
    by_cases h : i < p.length
    · rw [hdirs i h]; rfl
    · rw [List.take_of_length_le (by omega)]; exact hp
  -- every prefix is found at itself: one more component is one more step from a directory
  have key : ∀ i, i ≤ p.length → walk ix [] (p.take i) = some (p.take i) := by
    intro i
    induction i with
    | zero => intro _; rfl
    | succ i ih =>
      intro hi
      rw [← List.take_append_getElem hi, walk_append, ih (by omega), Option.bind_some, walk_cons,
        if_pos (hdirs i hi), child, List.take_append_getElem hi, hal i hi, if_pos (hnode (i + 1) hi)]
      rfl
  simpa using key p.length (Nat.le_refl _)

theorem lookup_of_ne_nil (ix : Index) {s : Str} (hs : s ≠ []) : lookup ix s = walk ix [] (splitOn 47 s) := by
  rw [lookup, if_neg (by simpa using hs)]

/-- every alias target is a node of the index (or the root) -/
def AliasOk (ix : Index) : Prop := ∀ lt ∈ ix.aliases, (ix.kind? lt.2).isSome = true

theorem walk_lands_on_node {ix : Index} (hok : AliasOk ix) {cs cur p : Path}
    (hcur : (ix.kind? cur).isSome = true) (h : walk ix cur cs = some p) : (ix.kind? p).isSome = true := by
  -- the clauses of `walk`: end of the path; `cur` not a directory; an alias continues at its target; a node; nothing there
  fun_induction walk ix cur cs with
  | case1 cur => cases h; exact hcur
  | case2 cur c cs hk => cases h
  | case3 cur c cs hk nxt t ha ih => exact ih (hok _ (alias?_mem ha)) h
  | case4 cur c cs hk nxt ha hs ih => exact ih hs h
  | case5 cur c cs hk nxt ha hs => cases h

theorem lookup_lands_on_node {ix : Index} (hok : AliasOk ix) {s : Str} {p : Path} (h : lookup ix s = some p) :
    (ix.kind? p).isSome = true := by
  rw [lookup] at h
  split at h
  · cases h; rfl
  · exact walk_lands_on_node hok rfl h

theorem AliasOk.cons {ix : Index} (hok : AliasOk ix) {t : Path} (ht : (ix.kind? t).isSome = true) (loc : Path) :
    AliasOk { ix with aliases := (loc, t) :: ix.aliases } := by
  intro lt hlt
  rcases List.mem_cons.mp hlt with rfl | hlt
  · exact ht
  · exact hok lt hlt

theorem resolvePass_ok {ix : Index} {pend : List Pending} (hok : AliasOk ix) {ix' : Index} {rest : List Pending}
    (h : resolvePass ix pend = some (ix', rest)) : AliasOk ix' ∧ ix'.nodes = ix.nodes := by
  fun_induction resolvePass ix pend generalizing ix' rest with
  | case1 ix => cases h; exact ⟨hok, rfl⟩
  | case2 ix p ps hd ih => exact ih hok h
  | case3 ix p ps d hd t hl ih => exact ih (hok.cons (lookup_lands_on_node hok hl) p.loc) h
  | case4 ix p ps d hd hl ih =>
    obtain ⟨⟨ix2, rest2⟩, hr, he⟩ := Option.map_eq_some_iff.mp h
    cases he
    exact ih hok hr

theorem resolveAll_ok {fuel : Nat} {ix : Index} {pend : List Pending} (hok : AliasOk ix) {ix' : Index}
    (h : resolveAll fuel ix pend = some ix') : AliasOk ix' ∧ ix'.nodes = ix.nodes := by
  -- the clauses of `resolveAll`: out of fuel; nothing pending; a pass fails; a pass resolves nothing more; another round
  fun_induction resolveAll fuel ix pend with
  | case1 ix _ => cases h; exact ⟨hok, rfl⟩
  | case2 fuel ix pend _ => cases h; exact ⟨hok, rfl⟩
  | case3 fuel ix pend _ hr => cases h
  | case4 fuel ix pend _ ix2 rest hr _ => cases h; exact resolvePass_ok hok hr
  | case5 fuel ix pend _ ix2 rest hr _ ih =>
    have h2 := resolvePass_ok hok hr
    have h3 := ih h2.1 h
    exact ⟨h3.1, h3.2.trans h2.2⟩

theorem scanMember_aliases (st : Index × List Pending) (m : Member) : (scanMember st m).1.aliases = st.1.aliases := by
  simp only [scanMember, apply_ite Prod.fst, apply_ite Index.aliases, ite_self]

theorem scan_aliases (ms : List Member) (st : Index × List Pending) : (ms.foldl scanMember st).1.aliases = st.1.aliases :=
  List.foldlRecOn (motive := fun s => s.1.aliases = st.1.aliases) ms scanMember rfl
    fun s h m _ => (scanMember_aliases s m).trans h

section ToTree
variable (ix : Index) (data : Str → Bytes) (f : Nat) {p : Path}

theorem toTree_of_dir (h : ix.kind? p = some .dir) : toTree ix data (f + 1) p =
    .dir ((names ix p).filterMap fun c => (child ix p c).map fun t => (c, toTree ix data f t)) := by
  rw [toTree, h]

theorem toTree_of_file {o : Str} (h : ix.kind? p = some (.file o)) : toTree ix data (f + 1) p = .file (data o) := by
  rw [toTree, h]

theorem toTree_of_none (h : ix.kind? p = none) : toTree ix data (f + 1) p = .other := by
  rw [toTree, h]

end ToTree

theorem map_fst_filterMap {α β γ : Type} (l : List α) (h : α → Option β) (g : β → γ) (hall : ∀ c ∈ l, (h c).isSome = true) :
    (l.filterMap fun n => (h n).map fun t => (n, g t)).map (·.1) = l := by
  induction l with
  | nil => rfl
  | cons n ns ih =>
    obtain ⟨t, ht⟩ := Option.isSome_iff_exists.mp (hall n (by simp))
    rw [List.filterMap_cons, ht, Option.map_some, List.map_cons, ih fun c hc => hall c (by simp [hc])]

theorem names_toTree (ix : Index) (data : Str → Bytes) (f : Nat) {p : Path} (h : ix.kind? p = some .dir) :
    (toTree ix data (f + 1) p).names = some (names ix p) := by
  rw [toTree_of_dir ix data f h, Node.names, map_fst_filterMap _ _ _ fun c hc => (mem_names_iff_child ix p c).mp hc]

theorem kidLookup_filterMap {β : Type} (l : List Str) (h : Str → Option β) (g : β → Node) (c : Str) :
    kidLookup (l.filterMap fun n => (h n).map fun t => (n, g t)) c = if c ∈ l then (h c).map g else none := by
  induction l with
  | nil => rfl
  | cons n ns ih =>
    rw [List.filterMap_cons]
    by_cases hc : n = c
    · subst hc
      cases hn : h n with
      | none => simp [ih, hn]
      | some t => simp [kidLookup]
    · have hc' : ¬ c = n := fun e => hc e.symm
      cases hn : h n with
      | none => simp [ih, hc']
      | some t => simp [kidLookup, ih, hc, hc']

/-- the right-hand side is that of `walk_cons`: this is the induction step of `lwalk_toTree` -/
theorem lwalk_toTree_cons (ix : Index) (data : Str → Bytes) (f : Nat) (p : Path) {c : Str}
    (hc : c ≠ [] ∧ c ≠ [46]) (cs : Path) :
    lwalk (toTree ix data (f + 1) p) (c :: cs) =
      if ix.kind? p = some .dir then (child ix p c).bind fun t => lwalk (toTree ix data f t) cs else none := by
  rw [toTree]
  split
  · rename_i hk
    rw [if_pos hk, lwalk, if_neg (by simp [hc]), kidLookup_filterMap]
    cases hch : child ix p c with
    | none => simp
    | some t => rw [if_pos ((mem_names_iff_child ix p c).mpr (by simp [hch]))]; rfl
  · rename_i o hk
    rw [if_neg (by simp [hk])]; rfl
  · rename_i hk
    rw [if_neg (by simp [hk])]; rfl

/-- **The index's look-up is path resolution in the tree it stands for.**  For a path whose
    components are neither empty nor `.` (the kernel skips those, the index does not know them)
    and a tree unfolded deeper than the path is long, descending in `toTree` from the node `p`
    reaches the tree of exactly the node `_getcacheinode` reaches — through directories,
    through resolved links (to their destinations), failing below files and at unknown names. -/
theorem lwalk_toTree (ix : Index) (data : Str → Bytes) : ∀ (cs : Path) (fuel : Nat) (p : Path),
    cs.length < fuel → (∀ c ∈ cs, c ≠ [] ∧ c ≠ [46]) →
    lwalk (toTree ix data fuel p) cs = (walk ix p cs).map (toTree ix data (fuel - cs.length)) := by
  intro cs
  induction cs with
  | nil => intro fuel p _ _; rfl
  | cons c cs ih =>
    intro fuel p hlen hclean
    cases fuel with
    | zero => exact absurd hlen (Nat.not_lt_zero _)
    | succ f =>
      rw [walk_cons, lwalk_toTree_cons ix data f p (hclean c List.mem_cons_self), List.length_cons,
        Nat.add_sub_add_right]
      split
      · cases child ix p c with
        | none => rfl
        | some t => exact ih f t (Nat.lt_of_succ_lt_succ hlen) fun x hx => hclean x (List.mem_cons_of_mem c hx)
      · rfl

theorem lwalk_toTree_sat (ix : Index) (data : Str → Bytes) {F : Nat}
    (hsat : ∀ f t, F ≤ f → toTree ix data f t = toTree ix data F t) (cs p : Path)
    (hclean : ∀ c ∈ cs, c ≠ [] ∧ c ≠ [46]) :
    lwalk (toTree ix data F p) cs = (walk ix p cs).map (toTree ix data F) := by
  rw [← hsat (cs.length + 1 + F) p (Nat.le_add_left ..),
    lwalk_toTree ix data cs _ p (Nat.lt_add_right F (Nat.lt_succ_self _)) hclean]
  congr 1
  funext t
  exact hsat _ t (by omega)

end Pyg.Zip
