/-!
# Lemmas/List — facts about core's lists that core (4.33) does not have
-/
namespace Pyg

theorem mem_infix_singleton {α : Type} {c : α} {s : List α} (h : c ∈ s) : [c] <:+: s := by
  obtain ⟨a, b, rfl⟩ := List.append_of_mem h
  exact ⟨a, b, by simp⟩

theorem filterMap_congr {α β : Type} {l : List α} {f g : α → Option β} (h : ∀ x ∈ l, f x = g x) :
    l.filterMap f = l.filterMap g := by
  induction l with
  | nil => rfl
  | cons a as ih =>
    rw [List.filterMap_cons, List.filterMap_cons, h a (by simp), ih fun x hx => h x (by simp [hx])]

theorem flatMap_eq_self {α : Type} {l : List α} {f : α → List α} (h : ∀ x ∈ l, f x = [x]) : l.flatMap f = l := by
  rw [List.flatMap_def, List.map_congr_left (g := fun x => [x]) h, ← List.flatMap_def, List.flatMap_singleton']

/-- a decoder that takes one character's image off the front at a time inverts the encoder -/
theorem flatMap_leftInverse {α β : Type} {g : α → List β} {u : List β → List α} (hnil : u [] = [])
    (l : List α) (h : ∀ x ∈ l, ∀ r, u (g x ++ r) = x :: u r) : u (l.flatMap g) = l := by
  induction l with
  | nil => exact hnil
  | cons x xs ih =>
    rw [List.flatMap_cons, h x List.mem_cons_self, ih fun y hy => h y (List.mem_cons_of_mem _ hy)]

/-- nested, this goes through a chain of tests without `split`, which is slow on a long chain -/
theorem ite_ne {α : Type} {p : Prop} [Decidable p] {a b x : α} (ha : a ≠ x) (hb : b ≠ x) :
    (if p then a else b) ≠ x := by split <;> assumption

/-- `mergeSort` sorts as soon as the comparator is transitive and total on the members of the list (core asks this of
    the whole type): the list is sorted in the subtype of what satisfies `P` -/
theorem pairwise_mergeSort_of_mem {α : Type} {le : α → α → Bool} {P : α → Prop}
    (trans : ∀ a b c, P a → P b → P c → le a b = true → le b c = true → le a c = true)
    (total : ∀ a b, P a → P b → le a b = true ∨ le b a = true) (l : List α) (hl : ∀ a ∈ l, P a) :
    (l.mergeSort le).Pairwise fun a b => le a b = true := by
  have hs := List.pairwise_mergeSort (le := fun a b : { a // P a } => le a.1 b.1)
    (fun a b c => trans a.1 b.1 c.1 a.2 b.2 c.2) (fun a b => by simpa using total a.1 b.1 a.2 b.2) (l.attachWith P hl)
  have hm := List.map_mergeSort (f := Subtype.val) (s := le) (l := l.attachWith P hl) fun _ _ _ _ => rfl
  rw [List.attachWith_map_subtype_val] at hm
  rw [← hm, List.pairwise_map]
  exact hs

/-- a lexicographic combination (`p < q`, or `p = q` and the second parts related) is total and transitive when its
    parts are: what `pairwise_mergeSort_of_mem` asks of a comparator that goes key by key -/
theorem lex_total {α : Type} [LT α] {p q : α} {R S : Prop} (tri : p < q ∨ p = q ∨ q < p) (h : R ∨ S) :
    (p < q ∨ (p = q ∧ R)) ∨ (q < p ∨ (q = p ∧ S)) := by
  rcases tri with h' | h' | h'
  · exact .inl (.inl h')
  · exact h.imp (fun r => .inr ⟨h', r⟩) (fun s => .inr ⟨h'.symm, s⟩)
  · exact .inr (.inl h')

theorem lex_trans {α : Type} [LT α] (tr : ∀ {a b c : α}, a < b → b < c → a < c) {p q r : α} {R S T : Prop}
    (h : R → S → T) (h1 : p < q ∨ (p = q ∧ R)) (h2 : q < r ∨ (q = r ∧ S)) : p < r ∨ (p = r ∧ T) := by
  rcases h1 with h1 | ⟨rfl, hr⟩
  · exact .inl (h2.elim (tr h1) fun ⟨e, _⟩ => e ▸ h1)
  · exact h2.imp_right (And.imp_right (h hr))

theorem mapM_cons_option {α β : Type} (f : α → Option β) (a : α) (l : List α) :
    (a :: l).mapM f = match f a, l.mapM f with
      | some b, some bs => some (b :: bs)
      | _, _ => none := by
  rw [List.mapM_cons]; cases f a <;> cases l.mapM f <;> rfl

theorem mapM_eq_some {α β : Type} {f : α → Option β} {l : List α} {r : List β} :
    l.mapM f = some r ↔ l.map f = r.map some := by
  induction l generalizing r with
  | nil => cases r <;> simp
  | cons a l ih =>
    rw [mapM_cons_option]
    cases r with
    | nil => cases f a <;> cases l.mapM f <;> simp
    | cons b r =>
      simp only [List.map_cons, List.cons.injEq, ← ih]
      cases f a <;> cases l.mapM f <;> simp

theorem flatMap_toList {α β : Type} (f : α → Option β) (l : List α) : l.flatMap (fun a => (f a).toList) = l.filterMap f := by
  induction l with
  | nil => rfl
  | cons a l ih => cases h : f a <;> simp [h, ih]

end Pyg
