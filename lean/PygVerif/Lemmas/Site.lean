import PygVerif.Model.Site
import PygVerif.Lemmas.Selector
/-!
# Lemmas/Site — path resolution: below the root and without a `..` component, the kernel's walk
from `/` through `root + selector` is the descent from the root directory (`kstat_eq_statAt`)
-/
namespace Pyg

theorem kwalk_append (xs ys : List Str) : ∀ (anc : List Node) (n : Node),
    kwalk anc n (xs ++ ys) = (kwalk anc n xs).bind fun s => kwalk s.1 s.2 ys := by
  intro anc n
  -- the cases are the clauses of `kwalk`: end of the path; `""` or `.`; `..` at `/`; `..` below it; a member found;
  -- none found; a file; another object.  (The equations of `kwalk` for a variable component come one per shape of `anc`.)
  fun_induction kwalk anc n xs with
  | case1 => rfl
  | case2 anc kids c cs h ih => cases anc <;> rw [List.cons_append, kwalk, if_pos h, ih]
  | case3 kids cs h ih => rw [List.cons_append, kwalk, if_neg h, if_pos rfl, ih]
  | case4 kids cs p ps h ih => rw [List.cons_append, kwalk, if_neg h, if_pos rfl, ih]
  | case5 anc kids c cs h1 h2 k hk ih => cases anc <;> rw [List.cons_append, kwalk, if_neg h1, if_neg h2, hk] <;> exact ih
  | case6 anc kids c cs h1 h2 hk => cases anc <;> rw [List.cons_append, kwalk, if_neg h1, if_neg h2, hk] <;> rfl
  | case7 => rfl
  | case8 => rfl

/-- without a `..` component the kernel never looks at the ancestors -/
theorem kwalk_no_dotdot (ys : List Str) (h : ∀ c ∈ ys, c ≠ [46, 46]) : ∀ (anc : List Node) (n : Node),
    (kwalk anc n ys).map (·.2) = lwalk n ys := by
  intro anc n
  fun_induction kwalk anc n ys with
  | case1 => rfl
  | case2 anc kids c cs hc ih => rw [lwalk, if_pos hc, ih fun x hx => h x (List.mem_cons_of_mem _ hx)]
  | case3 => exact absurd rfl (h _ List.mem_cons_self)
  | case4 => exact absurd rfl (h _ List.mem_cons_self)
  | case5 anc kids c cs hc _ k hk ih => rw [lwalk, if_neg hc, hk, ih fun x hx => h x (List.mem_cons_of_mem _ hx)]
  | case6 anc kids c cs hc _ hk => rw [lwalk, if_neg hc, hk]; rfl
  | case7 => rfl
  | case8 => rfl

theorem stripSlash_append (a b : Str) (hb : b ≠ []) : stripSlash (a ++ b) = a ++ stripSlash b := by
  unfold stripSlash
  rw [List.getLast?_append, Option.or_of_isSome (List.getLast?_isSome.mpr hb)]
  split
  · rw [List.dropLast_append_of_ne_nil hb]
  · rfl

theorem stripSlash_of_head_slash (s : Str) (h : s.head? = some 47) :
    stripSlash s = [] ∨ ∃ t, stripSlash s = 47 :: t := by
  cases s with
  | nil => cases h
  | cons x r =>
    cases h
    by_cases hr : r = []
    · left; rw [hr]; rfl
    · exact .inr ⟨_, stripSlash_append [47] r hr⟩

def NoClimb (p : Str) : Prop := ∀ c ∈ splitOn 47 (stripSlash p), c ≠ [46, 46]

/-- **The kernel's `stat` below the root.**  If the configured root path resolves to the
    directory `R = .dir kids`, then for every absolute selector without a `..` component the
    object the kernel reaches from `/` through `root + selector` is the object reached by
    descending from `R` — whatever the rest of the file system `W` contains. -/
theorem kstat_eq_statAt (W : Node) (rootStr : Str) (anc : List Node) (kids : List (Str × Node))
    (hroot : kwalk [] W (splitOn 47 rootStr) = some (anc, .dir kids))
    (p : Str) (hh : p.head? = some 47) (hn : NoClimb p) :
    kstat W rootStr p = statAt (.dir kids) p := by
  unfold kstat statAt
  split
  · rfl
  · rw [stripSlash_append rootStr p (by rintro rfl; cases hh)]
    unfold selComps
    unfold NoClimb at hn
    rcases stripSlash_of_head_slash p hh with h0 | ⟨t, ht⟩
    · rw [h0, List.append_nil, hroot]; rfl
    · rw [ht, splitOn_cons_sep] at hn
      rw [ht, splitOn_append_sep, kwalk_append, hroot, splitOn_cons_sep, lwalk, if_pos (.inl rfl)]
      exact kwalk_no_dotdot _ (List.forall_mem_cons.mp hn).2 _ _

theorem statAt_root (kids : List (Str × Node)) : statAt (.dir kids) [47] = some (.dir kids) := rfl

theorem kidsWf_iff {kids : List (Str × Node)} :
    kidsWf kids = true ↔ ∀ nk ∈ kids, validName nk.1 = true ∧ nk.2.wf = true := by
  induction kids with
  | nil => simp [kidsWf]
  | cons x r ih => rw [List.forall_mem_cons, ← ih, kidsWf, Bool.and_eq_true, Bool.and_eq_true]

theorem kidLookup_mem {kids : List (Str × Node)} {c : Str} {k : Node} (h : kidLookup kids c = some k) : (c, k) ∈ kids := by
  fun_induction kidLookup kids c with
  | case1 => cases h
  | case2 => cases h; exact List.mem_cons_self
  | case3 n k' rest c hn ih => exact List.mem_cons_of_mem _ (ih h)

theorem lwalk_wf {cs : List Str} {n m : Node} (hw : n.wf = true) (h : lwalk n cs = some m) : m.wf = true := by
  fun_induction lwalk n cs with
  | case1 n => cases h; exact hw
  | case2 kids c cs hc ih => exact ih hw h
  | case3 kids c cs hc k hk ih => exact ih (kidsWf_iff.mp hw _ (kidLookup_mem hk)).2 h
  | case4 | case5 | case6 => cases h

theorem statAt_names_valid (R : Node) (hw : R.wf = true) (p : Str) (ks : List (Str × Node))
    (h : statAt R p = some (.dir ks)) : ∀ nk ∈ ks, validName nk.1 = true := by
  unfold statAt at h
  split at h
  · cases h
  · exact fun nk hm => (kidsWf_iff.mp (lwalk_wf hw h) nk hm).1

end Pyg
