import PygVerif.Model.Log
import PygVerif.Lemmas.Str
/-!
# Lemmas/Log — `log_syslog` raises on exactly the messages `log_file` cannot write

`syslogText` is a `flatMap`; what `syslog.syslog()` makes of it is decided character by character.
-/
namespace Pyg

theorem backslashX_accepted (b : Nat) (hb : b < 256) : syslogAccepts (backslashX b) = true := by
  have hex : ∀ n < 16, okChar (lowerHexDigit n) = true := by decide
  simp only [syslogAccepts, backslashX, List.all_cons, List.all_nil, Bool.and_true, Bool.and_eq_true]
  exact ⟨rfl, rfl, hex _ (by omega), hex _ (by omega)⟩

theorem syslogAccepts_syslogText (m : Str) : syslogAccepts (syslogText m) = (encodeSE m).isSome := by
  rw [syslogAccepts, syslogText, List.all_flatMap, encodeSE_isSome]
  congr 1
  funext c
  by_cases he : isEscapedByte c = true
  · have hb : 0xDC80 ≤ c ∧ c ≤ 0xDCFF := by simpa [isEscapedByte] using he
    have : encodeCp c = some [c - 0xDC00] := by
      rw [encodeCp, if_neg (by omega), if_neg (by omega), if_pos hb]
    rw [if_pos he, this]
    exact backslashX_accepted _ (by omega)
  · rw [if_neg he]
    by_cases h0 : c = 0
    · subst h0; rfl
    · simp [h0, okChar, he]

end Pyg
