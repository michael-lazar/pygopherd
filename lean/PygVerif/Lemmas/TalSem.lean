import PygVerif.Model.Tal
import PygVerif.Lemmas.Str
/-!
# Lemmas/TalSem — the equations of `repeatPhase`, and its case principle; `exists:` and `nocall:`

`repeatPhase` has three outcomes: the body once (no `tal:repeat`, or the expression gives
`default`), nothing (not a non-empty sequence), the loop.  Of `evalFuel`, the two prefixes that look at their
first alternative before anything else.
-/
namespace Pyg.Tal

variable (py : Str → Val) (orig : List (Str × Str)) {c : Cmds} (body : Ctx → Str × Ctx) (ctx : Ctx)

theorem repeatPhase_none (h : c.repeat_ = none) : repeatPhase py orig c body ctx = body ctx := by
  simp only [repeatPhase, h]

variable {v e : Str} (h : c.repeat_ = some (v, e))
include h

theorem repeatPhase_default (hd : isDefault (eval py { ctx with attrs := orig } e) = true) :
    repeatPhase py orig c body ctx = body { ctx with attrs := orig } := by
  simp only [repeatPhase, h, hd, if_true]

theorem repeatPhase_skip (hd : isDefault (eval py { ctx with attrs := orig } e) = false)
    (hs : ∀ x xs, seqItems (eval py { ctx with attrs := orig } e) ≠ some (x :: xs)) :
    repeatPhase py orig c body ctx = ([], { ctx with attrs := orig }) := by
  -- `hs` has the shape of the side condition of the `match`'s fall-through equation: `simp` discharges it from the context
  simp only [repeatPhase, h, hd, Bool.false_eq_true, if_false]

theorem repeatPhase_loop {x : Val} {xs : List Val} (hd : isDefault (eval py { ctx with attrs := orig } e) = false)
    (hs : seqItems (eval py { ctx with attrs := orig } e) = some (x :: xs)) :
    repeatPhase py orig c body ctx =
      ((body (({ ctx with attrs := orig } : Ctx).addRepeat v (xs.length + 1) x)).1 ++
        (repeatSem v body xs (body (({ ctx with attrs := orig } : Ctx).addRepeat v (xs.length + 1) x)).2).1,
       (repeatSem v body xs (body (({ ctx with attrs := orig } : Ctx).addRepeat v (xs.length + 1) x)).2).2.removeRepeat.popLocals) := by
  simp only [repeatPhase, h, hd, hs, Bool.false_eq_true, if_false]

omit h

/-- `once` covers both single runs of the body: from `ctx` itself (`o := ctx.attrs`, by eta) and from `ctx` with
    `attrs := orig` -/
theorem repeatPhase_cases {motive : Str × Ctx → Prop}
    (once : ∀ o, motive (body { ctx with attrs := o }))
    (skip : motive ([], { ctx with attrs := orig }))
    (loop : ∀ v n x xs,
      motive ((body (({ ctx with attrs := orig } : Ctx).addRepeat v n x)).1 ++
          (repeatSem v body xs (body (({ ctx with attrs := orig } : Ctx).addRepeat v n x)).2).1,
        (repeatSem v body xs (body (({ ctx with attrs := orig } : Ctx).addRepeat v n x)).2).2.removeRepeat.popLocals)) :
    motive (repeatPhase py orig c body ctx) := by
  fun_cases repeatPhase py orig c body ctx
  · exact once ctx.attrs
  · exact once orig
  · exact loop ..
  · exact skip

/-! ### `exists:` and `nocall:` stop at their first alternative if it is a path that is found -/

section tales
variable (fuel : Nat) {e0 e : Str} {v : Val} (hf : traversePath ctx (strip ((splitOn 124 (lstripSp e)).headD [])) = some v)
include hf

theorem evalFuel_exists_found (h : strip e0 = lit "exists:" ++ e) : evalFuel py (fuel + 1) ctx e0 = .val (.int 1) := by
  have hpre : isPrefixB (lit "path:") (lit "exists:" ++ e) = false := by rw [lit_ofList, lit_ofList]; rfl
  have hex : isPrefixB (lit "exists:") (lit "exists:" ++ e) = true := by rw [lit_ofList]; rfl
  have hdrop : (lit "exists:" ++ e).drop 7 = e := by rw [lit_ofList]; rfl
  unfold evalFuel
  simp only [h, hpre, hex, Bool.false_eq_true, if_false, if_true, hdrop, hf]

theorem evalFuel_nocall_found (h : strip e0 = lit "nocall:" ++ e) : evalFuel py (fuel + 1) ctx e0 = .val v := by
  have hpre : isPrefixB (lit "path:") (lit "nocall:" ++ e) = false := by rw [lit_ofList, lit_ofList]; rfl
  have hex : isPrefixB (lit "exists:") (lit "nocall:" ++ e) = false := by rw [lit_ofList, lit_ofList]; rfl
  have hno : isPrefixB (lit "nocall:") (lit "nocall:" ++ e) = true := by rw [lit_ofList]; rfl
  have hdrop : (lit "nocall:" ++ e).drop 7 = e := by rw [lit_ofList]; rfl
  unfold evalFuel
  simp only [h, hpre, hex, hno, Bool.false_eq_true, if_false, if_true, hdrop, hf]

end tales

end Pyg.Tal
