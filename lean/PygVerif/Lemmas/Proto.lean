import PygVerif.Model.Proto
import PygVerif.Lemmas.Str
/-!
# Lemmas/Proto — what the small predicates of `Model/Proto` say
-/
namespace Pyg

theorem isGplusString_iff (g : Str) :
    isGplusString g = true ↔ g ≠ [] ∧ (g.head? = some 43 ∨ g = [33] ∨ g.head? = some 36) := by
  cases g <;> simp [isGplusString, or_assoc]

theorem plusToSpace_of_not_mem (s : Str) (h : 43 ∉ s) : plusToSpace s = s :=
  (List.map_congr_left fun c hc => if_neg fun e : c = 43 => h (e ▸ hc)).trans (List.map_id s)

/-- a query string that is a single `key=value` pair -/
theorem qsSearch_pair (k v : Str) (hk : ∀ c ∈ k, c ≠ 61 ∧ c ≠ 38) (hv : 38 ∉ v) (hne : v ≠ []) :
    qsSearch (k ++ 61 :: v) =
      if unquote (plusToSpace k) == lit "searchrequest" then some (unquote (plusToSpace v)) else none := by
  have h38 : 38 ∉ k ++ 61 :: v := by
    simp only [List.mem_append, List.mem_cons, not_or]
    exact ⟨fun h => (hk _ h).2 rfl, by decide, hv⟩
  have hk' : ∀ c ∈ k, (!(c == 61)) = true := fun c hc => by simpa using (hk c hc).1
  rw [qsSearch, splitOn_no_sep 38 _ h38, qsSearchAux, takeUntil_eq, dropUntil_eq, List.takeWhile_append_of_pos hk',
    List.dropWhile_append_of_pos hk', List.takeWhile_cons_of_neg (by simp), List.dropWhile_cons_of_neg (by simp),
    List.append_nil, List.drop_one, List.tail_cons, if_pos (by simp)]
  simp only [List.isEmpty_eq_false_iff.mpr hne, Bool.not_false, Bool.true_and, qsSearchAux]

end Pyg
