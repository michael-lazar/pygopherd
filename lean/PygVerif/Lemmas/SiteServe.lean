import PygVerif.Model.Serve
import PygVerif.Lemmas.Site
import PygVerif.Lemmas.EntryFrame
/-!
# Lemmas/SiteServe — what `dispatch`, `serve`, `entryAt`, `childOf`, `siteEntries`, `handled` and an `!` request say about one selector
-/
namespace Pyg

theorem dispatch_url {c : SiteCfg} {sel : Str} (hu : (c.url && urlSecureB c.urlForbidden sel) = true) (st : StatFn) :
    dispatch c st sel = .url := by
  simp [dispatch, hu]

theorem dispatch_insecure {c : SiteCfg} {sel : Str} (hs : secureB c.forbidden sel = false) (st : StatFn) :
    dispatch c st sel = if (c.url && urlSecureB c.urlForbidden sel) = true then .url else .notFound := by
  simp [dispatch, hs]

theorem dispatch_stat (c : SiteCfg) (st : StatFn) (sel : Str) :
    match dispatch c st sel with
    | .url => (c.url && urlSecureB c.urlForbidden sel) = true
    | .notFound => True
    | .gophermapDir | .dir => secureB c.forbidden sel = true ∧ ∃ kids, st sel = some (.dir kids)
    | .gophermapFile | .htmlFile | .file => secureB c.forbidden sel = true ∧ ∃ d, st sel = some (.file d) := by
  -- the clauses of `dispatch`, each with the tests that led to it: 1 the URL handler; 2 filter; 3, 4 a directory with
  -- and without gophermap; 5 a gophermap file; 6 a cache file; 7, 8 HTML and other files; 9 nothing or another object
  fun_cases dispatch c st sel
  case case1 hu => exact hu
  case case2 | case6 | case9 => trivial
  all_goals exact ⟨by simpa using ‹¬(!secureB c.forbidden sel) = true›, _, ‹st sel = some _›⟩

theorem serve_fileHandler {c : SiteCfg} {st : StatFn} {sel : Str} (h : (dispatch c st sel).isFileHandler = true) :
    ∃ d, st sel = some (.file d) ∧ serve c st sel = .document d := by
  have hs := dispatch_stat c st sel
  unfold serve
  cases hd : dispatch c st sel <;> rw [hd] at h hs
  case file | htmlFile => obtain ⟨_, d, hst⟩ := hs; exact ⟨d, hst, by simp [hst]⟩
  all_goals cases h

theorem serve_eq_notFound_iff {c : SiteCfg} {st : StatFn} {sel : Str} :
    serve c st sel = .notFound ↔ dispatch c st sel = .notFound := by
  have hs := dispatch_stat c st sel
  unfold serve
  cases hd : dispatch c st sel <;> rw [hd] at hs
  case file | htmlFile => obtain ⟨_, d, hst⟩ := hs; simp [hst]
  all_goals simp

theorem serve_not_fileHandler {c : SiteCfg} {st : StatFn} {sel : Str} (hne : dispatch c st sel ≠ .notFound)
    (h : (dispatch c st sel).isFileHandler = false) :
    serve c st sel = .menu ∨ ∃ t, serve c st sel = .generated t := by
  unfold serve
  cases hd : dispatch c st sel <;> simp_all [Handler.isFileHandler]

theorem entryAt_selector {c : SiteCfg} {st : StatFn} {sel : Str} {a : Entry} (ha : entryAt c st sel = some a) :
    a.selector = sel := by
  unfold entryAt at ha
  by_cases hu : dispatch c st sel = .url
  · rw [if_pos hu] at ha; cases ha; rfl
  · rw [if_neg hu] at ha
    obtain ⟨pi, _, rfl⟩ := Option.map_eq_some_iff.mp ha
    -- the selector is that of the populated entry in every branch, and population keeps it
    cases c.title sel <;> simp only [apply_ite Entry.selector, (populateWith_frame ..).1, ite_self]

theorem childOf_entry_eq_some {c : SiteCfg} {st : StatFn} {base name : Str} {k : Node} {e : Entry} {isf : Bool} :
    (childOf c st base name k).entry = some (e, isf) ↔
      dispatch c st (base ++ [47] ++ name) ≠ .notFound ∧ entryAt c st (base ++ [47] ++ name) = some e ∧
      (dispatch c st (base ++ [47] ++ name)).isFileHandler = isf := by
  simp only [childOf]
  generalize dispatch c st (base ++ [47] ++ name) = h
  cases entryAt c st (base ++ [47] ++ name) <;> cases h <;> simp

theorem siteEntries_dir {c : SiteCfg} {st : StatFn} {sel : Str} (hd : dispatch c st sel = .dir) :
    siteEntries c st sel = (kidsAt st sel).bind fun kids =>
      dirListing c.dir sel (kids.map fun nk => childOf c st (if sel = [47] then [] else sel) nk.1 nk.2) := by
  unfold siteEntries; rw [hd]

theorem kidsAt_eq_some {st : StatFn} {sel : Str} {kids : List (Str × Node)} :
    kidsAt st sel = some kids ↔ st sel = some (.dir kids) := by
  unfold kidsAt
  rcases st sel with _ | _ | _ | _ <;> simp

theorem handled_spec (c : ServeCfg) (st : StatFn) (sel : Str) :
    match handled c st sel with
    | .notFound _ => dispatch c.site st sel = .notFound
    | .menu self es => entryAt c.site st sel = some self ∧ siteEntries c.site st sel = some es
    | .document e d => entryAt c.site st sel = some e ∧ st sel = some (.file d) ∧
        (dispatch c.site st sel = .file ∨ dispatch c.site st sel = .htmlFile)
    | .page e _ => entryAt c.site st sel = some e ∧ dispatch c.site st sel = .url
    | .crash => True := by
  -- the clauses of `handled`: not found; a file handler with file and entry (2, 4) or without (3, 5); the URL page with
  -- its entry (6) or without (7); a menu with entry and entries (8) or without (9)
  fun_cases handled c st sel
  case case1 h => exact h
  case case2 h _ _ he hs => exact ⟨he, hs, .inl h⟩
  case case4 h _ _ he hs => exact ⟨he, hs, .inr h⟩
  case case6 h _ he => exact ⟨he, h⟩
  case case8 hes he _ _ _ _ => exact ⟨he, hes⟩
  all_goals trivial

theorem handled_entry {c : ServeCfg} {st : StatFn} {sel : Str} {e : Entry} (hne : dispatch c.site st sel ≠ .notFound)
    (he : entryAt c.site st sel = some e) :
    match handled c st sel with
    | .notFound _ => False
    | .menu self _ => self = e
    | .document x _ => x = e
    | .page x _ => x = e
    | .crash => True := by
  have hs := handled_spec c st sel
  rw [he] at hs
  cases hh : handled c st sel <;> rw [hh] at hs
  case notFound => exact hne hs
  case crash => trivial
  all_goals exact (Option.some.inj hs.1).symm

theorem respondParsed_info (c : ServeCfg) (st : StatFn) (p : Proto) (rq : Parsed) (hp : Wire.ofProto p = .gopherp)
    (hg : rq.gplus = some (lit "!")) (hb : rq.badRequest = false) (hgi : rq.geminiInput = none) :
    respondParsed c st p rq =
      match handled c st rq.selector with
      | .notFound m => some [.text (lit "--2\r\n1 " ++ c.render.admin ++ [13, 10] ++ m ++ [13, 10])]
      | .menu e _ | .document e _ | .page e _ =>
        (gplusBlocks c.render.srv c.render.admin none e).map fun b => [.text (lit "+-2\r\n" ++ b)]
      | .crash => none := by
  unfold respondParsed
  simp only [hb, hgi, hp, hg, Bool.false_eq_true, if_false, Option.isSome_none, beq_self_eq_true, if_true]
  cases handled c st rq.selector <;> rfl

theorem info_request_of_entry {c : ServeCfg} {st : StatFn} {p : Proto} {rq : Parsed} {e : Entry} {ps : List Piece}
    (hp : Wire.ofProto p = .gopherp) (hg : rq.gplus = some (lit "!")) (hb : rq.badRequest = false)
    (hgi : rq.geminiInput = none) (hne : dispatch c.site st rq.selector ≠ .notFound)
    (he : entryAt c.site st rq.selector = some e) (hr : respondParsed c st p rq = some ps) :
    ∃ b, gplusBlocks c.render.srv c.render.admin none e = some b ∧ ps = [.text (lit "+-2\r\n" ++ b)] := by
  have hm := handled_entry (c := c) hne he
  rw [respondParsed_info c st p rq hp hg hb hgi] at hr
  cases hh : handled c st rq.selector <;> rw [hh] at hm hr
  case notFound => exact hm.elim
  case crash => cases hr
  all_goals
    subst hm
    obtain ⟨b, hb, rfl⟩ := Option.map_eq_some_iff.mp hr
    exact ⟨b, hb, rfl⟩

end Pyg
