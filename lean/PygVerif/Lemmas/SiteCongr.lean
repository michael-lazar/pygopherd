import PygVerif.Lemmas.SiteServe
/-!
# Lemmas/SiteCongr — the site functions look at the file system only along the paths they build

`Abs Q`: the paths `/`, then components satisfying `Q`.  If `Q` excludes at most `""`, `.` and `..` (`OnlyDots`), two views
that agree on these paths (`AgreeOn (Abs Q)`) give the same `dispatch`, `popAt`, `entryAt`, `childOf`, `serve`,
`siteEntries` for a selector among them: the site functions only add a component (member, `.cap/<name>`, the
`gophermap` probe, a directory's sidecar), append text to the last one (a file's sidecar), or strip a trailing slash
(`getfspath`), and the `abs_*` lemmas say that each of these stays in `Abs Q`.
-/
namespace Pyg

def Comps (Q : Str → Prop) (p : Str) : Prop := ∀ c ∈ splitOn 47 p, Q c

def Abs (Q : Str → Prop) (p : Str) : Prop := ∃ r, p = 47 :: r ∧ Comps Q r

def OnlyDots (Q : Str → Prop) : Prop := ∀ n, n ≠ [] → n ≠ [46] → n ≠ [46, 46] → Q n

def Proper (n : Str) : Prop := n ≠ [] ∧ 47 ∉ n ∧ n ≠ [46] ∧ n ≠ [46, 46]

/-- what is asked of a sidecar extension (`.abstract`, `.3d`, …): with three characters, the component it ends is
    none of `""`, `.`, `..` (`OnlyDots.long`) -/
def ExtOk (ext : Str) : Prop := 47 ∉ ext ∧ 3 ≤ ext.length

theorem proper_of_validName {n : Str} (h : validName n = true) : Proper n := by
  simp only [validName, Bool.and_eq_true, Bool.not_eq_true', bne_iff_ne, ne_eq, List.isEmpty_eq_false_iff,
    List.contains_eq_mem, decide_eq_false_iff_not] at h
  exact ⟨h.1.1.1.1, h.1.1.1.2, h.1.2, h.2⟩

theorem OnlyDots.long {Q : Str → Prop} (hQ : OnlyDots Q) {n : Str} (hn : 3 ≤ n.length) : Q n := by
  refine hQ n ?_ ?_ ?_ <;> (intro e; rw [e] at hn; simp at hn)

/-- `47 ∉ n ∧ Q n`: `n` can be added as a component to a path in `Abs Q` (`abs_member`) — a proper name can, and
    so can whatever would do as a sidecar extension -/
theorem OnlyDots.proper {Q : Str → Prop} (hQ : OnlyDots Q) {n : Str} (hn : Proper n) : 47 ∉ n ∧ Q n :=
  ⟨hn.2.1, hQ n hn.1 hn.2.2.1 hn.2.2.2⟩

theorem OnlyDots.ext {Q : Str → Prop} (hQ : OnlyDots Q) {e : Str} (he : ExtOk e) : 47 ∉ e ∧ Q e :=
  ⟨he.1, hQ.long he.2⟩

theorem comps_append_sep {Q : Str → Prop} (a b : Str) : Comps Q (a ++ 47 :: b) ↔ Comps Q a ∧ Comps Q b := by
  unfold Comps
  rw [splitOn_append_sep]
  simp only [List.mem_append, or_imp, forall_and]

theorem comps_nosep {Q : Str → Prop} {n : Str} (h : 47 ∉ n) : Comps Q n ↔ Q n := by
  unfold Comps
  rw [splitOn_no_sep 47 n h]
  simp

theorem comps_cons_sep {Q : Str → Prop} (r : Str) : Comps Q (47 :: r) ↔ Q [] ∧ Comps Q r := by
  rw [← comps_nosep (Q := Q) (n := []) (by simp)]
  exact comps_append_sep [] r

theorem comps_append_nosep {Q : Str → Prop} {a b : Str} (ha : Comps Q a) (hb : 47 ∉ b) (hQ : ∀ l, Q (l ++ b)) :
    Comps Q (a ++ b) := by
  obtain ⟨init, last, h1, h2⟩ := splitOn_append_nosep 47 a b hb
  intro c hc
  rw [h2] at hc
  rcases List.mem_append.mp hc with hc | hc
  · exact ha c (by rw [h1]; exact List.mem_append_left _ hc)
  · rw [List.mem_singleton.mp hc]; exact hQ last

theorem comps_stripSlash {Q : Str → Prop} {a : Str} (ha : Comps Q a) : Comps Q (stripSlash a) := by
  unfold stripSlash
  split
  · rename_i hl
    obtain ⟨ys, rfl⟩ := List.getLast?_eq_some_iff.mp hl
    rw [List.dropLast_concat]
    exact ((comps_append_sep ys []).mp ha).1
  · exact ha

theorem lit_probe : lit "/gophermap" = 47 :: lit "gophermap" := by rw [lit_ofList, lit_ofList]; rfl
theorem lit_cap : lit "/.cap/" = 47 :: lit ".cap" ++ [47] := by rw [lit_ofList, lit_ofList]; rfl
theorem ok_gophermap : ExtOk (lit "gophermap") := by unfold ExtOk; rw [lit_ofList]; decide
theorem ok_cap : ExtOk (lit ".cap") := by unfold ExtOk; rw [lit_ofList]; decide

section
variable {Q : Str → Prop} {p n e : Str}

theorem abs_head (hp : Abs Q p) : p.head? = some 47 := by
  obtain ⟨r, rfl, _⟩ := hp; rfl

theorem abs_root_member (hn : 47 ∉ n ∧ Q n) : Abs Q (47 :: n) := ⟨n, rfl, (comps_nosep hn.1).mpr hn.2⟩

theorem abs_member (hp : Abs Q p) (hn : 47 ∉ n ∧ Q n) : Abs Q (p ++ 47 :: n) := by
  obtain ⟨r, rfl, hr⟩ := hp
  exact ⟨r ++ 47 :: n, rfl, (comps_append_sep r n).mpr ⟨hr, (comps_nosep hn.1).mpr hn.2⟩⟩

theorem abs_extend (hQ : OnlyDots Q) (hp : Abs Q p) (he : ExtOk e) : Abs Q (p ++ e) := by
  obtain ⟨r, rfl, hr⟩ := hp
  exact ⟨r ++ e, rfl, comps_append_nosep hr he.1 fun l => hQ.long (by rw [List.length_append]; have := he.2; omega)⟩

theorem abs_stripSlash (hp : Abs Q p) (hne : p ≠ [47]) : Abs Q (stripSlash p) := by
  obtain ⟨r, rfl, hr⟩ := hp
  have hr0 : r ≠ [] := fun e => hne (by rw [e])
  exact ⟨stripSlash r, stripSlash_append [47] r hr0, comps_stripSlash hr⟩

theorem abs_probe (hQ : OnlyDots Q) (hp : Abs Q p) : Abs Q (p ++ lit "/gophermap") := by
  rw [lit_probe]; exact abs_member hp (hQ.ext ok_gophermap)

/-- the member `n` of the directory `p`, as `siteEntries` writes its selector (the root is the empty base) -/
theorem abs_base_member (hp : Abs Q p) (hn : 47 ∉ n ∧ Q n) : Abs Q ((if p = [47] then [] else p) ++ 47 :: n) := by
  split
  · exact abs_root_member hn
  · exact abs_member hp hn

theorem abs_base_probe (hQ : OnlyDots Q) (hp : Abs Q p) : Abs Q ((if p = [47] then [] else p) ++ lit "/gophermap") := by
  rw [lit_probe]; exact abs_base_member hp (hQ.ext ok_gophermap)

/-- the sidecar paths of `sidecarsAt`: `<path>/<ext>` for a directory, `<path><ext>` otherwise — the latter is
    no path at all for the root, which is why the root must not be a file -/
theorem abs_sidecar (hQ : OnlyDots Q) (hp : Abs Q p) (he : ExtOk e) (isDir : Bool) (hroot : p = [47] → isDir = true) :
    Abs Q ((if isDir then stripSlash p ++ [47] else stripSlash p) ++ e) := by
  cases isDir with
  | true =>
    simp only [if_true, List.append_assoc, List.singleton_append]
    by_cases hr : p = [47]
    · subst hr; exact abs_root_member (hQ.ext he)
    · exact abs_member (abs_stripSlash hp hr) (hQ.ext he)
  | false =>
    simp only [Bool.false_eq_true, if_false]
    exact abs_extend hQ (abs_stripSlash hp fun hr => nomatch hroot hr) he

end

theorem abs_members {Q : Str → Prop} (hQ : OnlyDots Q) {sel n : Str} (hs : Abs Q sel) (hn : validName n = true) :
    Abs Q ((if sel = [47] then [] else sel) ++ [47] ++ n) ∧ Abs Q ((if sel = [47] then [] else sel) ++ lit "/.cap/" ++ n) := by
  have hp := hQ.proper (proper_of_validName hn)
  refine ⟨by rw [List.append_assoc]; exact abs_base_member hs hp, ?_⟩
  rw [lit_cap, ← List.append_assoc, List.append_assoc _ [47] n]
  exact abs_member (abs_base_member hs (hQ.ext ok_cap)) hp

def AgreeOn (P : Str → Prop) (st st' : StatFn) : Prop := ∀ p, P p → st p = st' p

theorem gmParse_congr (fb : List Str) (ea : List (Str × Str)) (dm base : Str) (pop pop' : Str → Option PopInfo)
    (hp : ∀ s, s.head? = some 47 → secureB fb s = true → pop s = pop' s) (ls : List Str) :
    gmParse fb ea dm base pop ls = gmParse fb ea dm base pop' ls := by
  have hpop : gmPopulate fb ea dm pop = gmPopulate fb ea dm pop' := by
    funext e
    unfold gmPopulate
    split
    · rename_i hc
      simp only [Bool.and_eq_true, beq_iff_eq] at hc
      rw [hp e.selector hc.1.2 hc.2]
    · rfl
  induction ls with
  | nil => rfl
  | cons l r ih => simp only [gmParse, gmLine, hpop, ih]

section
variable {P : Str → Prop} {st st' : StatFn} (h : AgreeOn P st st')
include h

theorem readAt_agree {p : Str} (hp : P p) : readAt st p = readAt st' p := by
  unfold readAt; rw [h p hp]

theorem kidsAt_agree {sel : Str} (hs : P sel) : kidsAt st sel = kidsAt st' sel := by
  unfold kidsAt; rw [h sel hs]

theorem sidecarsAt_agree (c : SiteCfg) (sel : Str) (isDir : Bool)
    (hside : ∀ e ∈ c.eaexts, P ((if isDir then stripSlash sel ++ [47] else stripSlash sel) ++ e.1)) :
    sidecarsAt c st sel isDir = sidecarsAt c st' sel isDir :=
  filterMap_congr fun ⟨_, _⟩ he => congrArg (Option.map _) (readAt_agree h (hside _ he))

end

section
variable {Q : Str → Prop} (hQ : OnlyDots Q) {st st' : StatFn} (h : AgreeOn (Abs Q) st st') (c : SiteCfg)
include hQ h

/-- `dispatch` asks about the selector and the `gophermap` probe, and only once the filter has passed -/
theorem dispatch_agree {sel : Str} (hs : secureB c.forbidden sel = true → Abs Q sel) :
    dispatch c st sel = dispatch c st' sel := by
  cases hsec : secureB c.forbidden sel with
  | false => rw [dispatch_insecure hsec st, dispatch_insecure hsec st']
  | true => unfold dispatch; rw [h _ (hs hsec), h _ (abs_probe hQ (hs hsec))]

theorem serve_agree {sel : Str} (hs : secureB c.forbidden sel = true → Abs Q sel) : serve c st sel = serve c st' sel := by
  unfold serve
  rw [← dispatch_agree hQ h c hs]
  cases hsec : secureB c.forbidden sel with
  | false => rw [dispatch_insecure hsec st]; cases (c.url && urlSecureB c.urlForbidden sel) <;> rfl
  | true => rw [h _ (hs hsec)]

-- `hroot`: what the view holds at `/` is a directory — for `/` as a file the sidecar path would be the bare
-- extension, outside every `Abs Q`.  Asked only if `/` is in `Abs Q`, that is if `Q []` holds (for `Good` it does not).
variable (hext : ∀ e ∈ c.eaexts, ExtOk e.1) (hroot : Abs Q [47] → ∀ n, st [47] = some n → n.isDir = true)
include hext hroot

theorem popAt_agree {sel : Str} (hs : Abs Q sel) : popAt c st sel = popAt c st' sel := by
  unfold popAt
  rw [← h sel hs]
  cases hst : st sel with
  | none => rfl
  | some n =>
    have hside := fun e he => abs_sidecar hQ hs (hext e he) n.isDir fun hr => hroot (hr ▸ hs) n (hr ▸ hst)
    cases n with
    | dir kids => simp only; rw [sidecarsAt_agree h c sel true hside]
    | file d => simp only; rw [sidecarsAt_agree h c sel false hside]
    | other => simp only; rw [sidecarsAt_agree h c sel false hside]

theorem entryAt_agree {sel : Str} (hs : Abs Q sel) : entryAt c st sel = entryAt c st' sel := by
  unfold entryAt
  rw [popAt_agree hQ h c hext hroot hs, dispatch_agree hQ h c (fun _ => hs)]

theorem childOf_agree (base n : Str) (k : Node) (hm : Abs Q (base ++ [47] ++ n))
    (hcap : Abs Q (base ++ lit "/.cap/" ++ n)) : childOf c st base n k = childOf c st' base n k := by
  unfold childOf
  simp only
  rw [dispatch_agree hQ h c (fun _ => hm), entryAt_agree hQ h c hext hroot hm, readAt_agree h hcap]

/-- **The listing functions agree on agreeing views.**  A plain or UMN listing asks about the members of the
    directory, whose names must be such that the kernel can store them (`hnames`); a gophermap asks about its own file and
    about whatever absolute selector its lines name, provided the filter passes it (`hgm`). -/
theorem siteEntries_agree {sel : Str} (hs : secureB c.forbidden sel = true → Abs Q sel)
    (hnames : ∀ kids, st sel = some (.dir kids) → ∀ nk ∈ kids, validName nk.1 = true)
    (hgm : dispatch c st sel ≠ .dir → ∀ s, s.head? = some 47 → secureB c.forbidden s = true → Abs Q s) :
    siteEntries c st sel = siteEntries c st' sel := by
  -- a function of the proof that the handler is not `.dir`: after `rw [hd] at hparse` that is a closed fact (`nofun`)
  have hparse (hne : dispatch c st sel ≠ .dir) (base : Str) (d : Bytes) :=
    gmParse_congr c.forbidden c.eaexts c.defaultMime base _ _
      (fun s h1 h2 => popAt_agree hQ h c hext hroot (hgm hne s h1 h2)) (binLines d)
  unfold siteEntries
  rw [← dispatch_agree hQ h c hs]
  have hst := dispatch_stat c st sel
  cases hd : dispatch c st sel
  case notFound | url | file | htmlFile => rfl
  -- left: the three handlers that list; each has seen a selector the filter passes
  all_goals
    rw [hd] at hst hparse
    have hsel := hs hst.1
    dsimp only
  case dir =>
    rw [← kidsAt_agree h hsel]
    refine Option.bind_congr fun kids hk => congrArg _ (List.map_congr_left fun nk hnk => ?_)
    have hm := abs_members hQ hsel (hnames kids (kidsAt_eq_some.mp hk) nk hnk)
    exact childOf_agree hQ h c hext hroot _ _ _ hm.1 hm.2
  case gophermapDir =>
    rw [← readAt_agree h (abs_base_probe hQ hsel)]
    exact Option.bind_congr fun d _ => hparse nofun _ d
  case gophermapFile =>
    rw [← readAt_agree h hsel]
    exact Option.bind_congr fun d _ => hparse nofun _ d

end

/-- the instance for the kernel: where the view from the root directory and the kernel's view of a world holding it
    agree (`agree_statAt_kstat`) -/
def Inside (p : Str) : Prop := Abs (· ≠ [46, 46]) p

theorem onlyDots_noClimb : OnlyDots (· ≠ [46, 46]) := fun _ _ _ h => h

theorem inside_of_secure {fb : List Str} {s : Str} (hs : secureB fb s = true) (hdd : [46,46] ∈ fb) (hnul : [0] ∈ fb)
    (hh : s.head? = some 47) : Inside s := by
  cases s with
  | nil => cases hh
  | cons x r =>
    cases hh
    exact ⟨r, rfl, ((comps_cons_sep r).mp fun c hc => (secure_components hs hdd hnul c hc).1).2⟩

theorem noClimb_of_inside {p : Str} (hp : Inside p) : NoClimb p := by
  obtain ⟨r, rfl, hr⟩ := hp
  exact comps_stripSlash ((comps_cons_sep r).mpr ⟨by decide, hr⟩)

theorem agree_statAt_kstat (W : Node) (rootStr : Str) (anc : List Node) (kids : List (Str × Node))
    (hroot : kwalk [] W (splitOn 47 rootStr) = some (anc, .dir kids)) :
    AgreeOn Inside (statAt (.dir kids)) (kstat W rootStr) :=
  fun p hp => (kstat_eq_statAt W rootStr anc kids hroot p (abs_head hp) (noClimb_of_inside hp)).symm

/-- **The kernel's view of any world holding a well-formed root directory gives the listings the root gives.** -/
theorem siteEntries_kstat (c : SiteCfg) (hdd : [46,46] ∈ c.forbidden) (hnul : [0] ∈ c.forbidden)
    (hext : ∀ e ∈ c.eaexts, ExtOk e.1) (W : Node) (rootStr : Str) (anc : List Node) (kids : List (Str × Node))
    (hroot : kwalk [] W (splitOn 47 rootStr) = some (anc, .dir kids)) (hwf : (Node.dir kids).wf = true)
    (sel : Str) (hh : sel.head? = some 47) :
    siteEntries c (statAt (.dir kids)) sel = siteEntries c (kstat W rootStr) sel := by
  have hin : ∀ s, s.head? = some 47 → secureB c.forbidden s = true → Inside s :=
    fun s h1 h2 => inside_of_secure h2 hdd hnul h1
  exact siteEntries_agree onlyDots_noClimb (agree_statAt_kstat W rootStr anc kids hroot) c hext
    (fun _ n hn => by rw [statAt_root] at hn; cases hn; rfl) (hin sel hh) (statAt_names_valid _ hwf sel) fun _ => hin

end Pyg
