import PygVerif.Model.Init
/-!
# Lemmas/Init — what `run` and `table` are made of

A trace is a cut of the plan; a row of the table is a `run`.  With these two facts a statement about every trace
is a statement about the cuts of the sixteen plans, and a statement about every row of the table is one about `run`.
-/
namespace Pyg.Init

theorem mem_allCfgs (c : Cfg) : c ∈ allCfgs := by
  have hb : ∀ b : Bool, b ∈ [false, true] := by decide
  simp only [allCfgs, List.mem_flatMap, List.mem_map]
  exact ⟨c.tls, hb _, c.chroot, hb _, c.setuid, hb _, c.setgid, hb _, rfl⟩

@[elab_as_elim]
theorem forall_cfg {P : Cfg → Prop} (h : ∀ c ∈ allCfgs, P c) (c : Cfg) : P c := h c (mem_allCfgs c)

theorem run_cfg (c : Cfg) (f : Option Nat) : (run c f).cfg = c := by
  fun_cases run c f <;> rfl

theorem run_fault (c : Cfg) (f : Option Nat) : (run c f).fault = f := by
  fun_cases run c f <;> rfl

theorem run_trace_prefix (c : Cfg) (f : Option Nat) : (run c f).trace <+: plan c := by
  fun_cases run c f
  case case2 => exact List.take_prefix _ _
  all_goals exact List.prefix_refl _

/-- used as an eliminator: `P` is read off the goal, the hypothesis is left to evaluation -/
@[elab_as_elim]
theorem forall_trace {P : Cfg → List Call → Prop}
    (h : ∀ c ∈ allCfgs, ∀ n, n ≤ (plan c).length → P c ((plan c).take n)) (c : Cfg) (t : List Call)
    (ht : t <+: plan c) : P c t := by
  rw [List.prefix_iff_eq_take.mp ht]; exact h c (mem_allCfgs c) _ ht.length_le

theorem other_not_mem_plan (c : Cfg) : Call.other ∉ plan c := by simp [plan]

/-- stated of a pair with `r = run …` and not of the components of a member: `(k, run c f).2 = run c f` by `rfl`
    makes the unifier unfold `run` -/
theorem mem_table {k : Nat} {r : Row} (h : (k, r) ∈ table) :
    k < nClasses ∧ ∃ c f, r = run c f ∧ ∀ i ∈ f, i < (plan c).length := by
  obtain ⟨c, -, h⟩ := List.mem_flatMap.mp h
  rcases List.mem_cons.mp h with h | h
  · cases h; exact ⟨Nat.zero_lt_succ _, c, none, rfl, nofun⟩
  · obtain ⟨k, hk, h⟩ := List.mem_flatMap.mp h
    obtain ⟨i, hi, h⟩ := List.mem_map.mp h
    cases h
    exact ⟨List.mem_range.mp hk, c, some i, rfl, fun _ hj => by cases hj; exact List.mem_range.mp hi⟩

end Pyg.Init
