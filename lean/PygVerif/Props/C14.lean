import PygVerif.Model.Conc
/-!
# C14 — Concurrent clients are isolated from one another

The two mechanisms through which requests share state, over *all* interleavings of their
atomic steps.  Real thread / process schedules, the accept queue and child reaping are runtime
and are exercised by the harness against the real threading and forking servers.
-/
namespace Pyg.Props.C14
open Pyg.Conc

/-- invariant: the shared cell is empty or holds `v`; a worker past `test` that decided not to assign
    did so because the cell already held `v`; a worker past `assign` sees `v` in the cell; every value
    recorded at `use` is `v`. -/
def okW (v : Nat) (sh : Option Nat) (w : W) : Prop :=
  (w.seen = none ∨ w.seen = some v) ∧
  (match w.prog with
   | [.test, .assign, .use] => w.seen = none
   | [.assign, .use] => w.seen = none ∧ (w.mustAssign = false → sh = some v)
   | [.use] => w.seen = none ∧ sh = some v
   | [] => True
   | _ => False)

def Inv (v : Nat) (s : Sys) : Prop := (s.shared = none ∨ s.shared = some v) ∧ ∀ w ∈ s.ws, okW v s.shared w

theorem okW_mono (v : Nat) (w : W) (sh sh' : Option Nat) (h : okW v sh w)
    (hm : sh = some v → sh' = some v) : okW v sh' w := by
  unfold okW at *
  refine ⟨h.1, ?_⟩
  split <;> simp_all

theorem stepW_ok (v : Nat) (sh : Option Nat) (w : W) (hsh : sh = none ∨ sh = some v) (hw : okW v sh w) :
    ((stepW v sh w).1 = none ∨ (stepW v sh w).1 = some v) ∧ (sh = some v → (stepW v sh w).1 = some v) ∧
    okW v (stepW v sh w).1 (stepW v sh w).2 := by
  obtain ⟨prog, ma, seen⟩ := w
  obtain ⟨hs, hp⟩ := hw
  simp only at hs hp
  split at hp
  · subst hp; rcases hsh with rfl | rfl <;> simp [stepW, okW]                                   -- at `test`
  · obtain ⟨rfl, hp⟩ := hp
    cases ma <;> rcases hsh with rfl | rfl <;> simp_all [stepW, okW]                            -- at `assign`
  · obtain ⟨rfl, rfl⟩ := hp; simp [stepW, okW]                                                  -- at `use`
  · simp [stepW, okW, hsh, hs]                                                                  -- done
  · exact hp.elim

theorem inv_step (v : Nat) (s : Sys) (i : Nat) (h : Inv v s) : Inv v (stepSys v s i) := by
  unfold stepSys
  cases hw : s.ws[i]? with
  | none => exact h
  | some w =>
    obtain ⟨key, mono, okNew⟩ := stepW_ok v s.shared w h.1 (h.2 w (List.mem_of_getElem? hw))
    refine ⟨key, fun w' hw' => ?_⟩
    -- the worker that moved is in order by `stepW_ok`; the others stay so because the cell never loses `v`
    rcases List.mem_or_eq_of_mem_set hw' with hmem | rfl
    · exact okW_mono v w' s.shared _ (h.2 w' hmem) mono
    · exact okNew

theorem inv_run (v : Nat) (sched : List Nat) (s : Sys) (h : Inv v s) : Inv v (runSched v s sched) :=
  List.foldlRecOn sched _ h fun s hs i _ => inv_step v s i hs

/-- **Lazies.** Under every schedule of any number of workers, every worker that has seen a value saw the
    configured one.  (The premise `w.prog = []` is not used; that a worker which has finished has seen a value at
    all is not in the statement.) -/
theorem lazy_any_schedule (v : Nat) (n : Nat) (sched : List Nat) :
    ∀ w ∈ (runSched v ⟨none, List.replicate n {}⟩ sched).ws, w.prog = [] → w.seen ≠ none → w.seen = some v := by
  have hinit : Inv v ⟨none, List.replicate n {}⟩ :=
    ⟨.inl rfl, fun w hw => by rw [List.eq_of_mem_replicate hw]; simp [okW]⟩
  intro w hw _ hseen
  exact ((inv_run v sched _ hinit).2 w hw).1.resolve_left hseen

theorem image_append_left (a : List Nat) {b t : List Nat} (h : Image b t) : Image (a ++ b) (a ++ t) := by
  induction a with
  | nil => exact h
  | cons x r ih => exact .cons (.inl rfl) ih

theorem image_take (n : Nat) (s : List Nat) : Image (s.take n) s := by
  have := image_append_left (s.take n) (.nil (s.drop n))
  rwa [List.append_nil, List.take_append_drop] at this

theorem image_refl (s : List Nat) : Image s s := by
  have := image_take s.length s
  rwa [List.take_length] at this

theorem image_drop {f s : List Nat} (h : Image f s) (n : Nat) : Image (f.drop n) (s.drop n) := by
  induction h generalizing n with
  | nil s => simp; exact .nil _
  | cons hb t ih =>
    cases n with
    | zero => exact .cons hb t
    | succ k => exact ih k

theorem image_writeAt {f s : List Nat} (h : Image f s) (off : Nat) (d : List Nat) (hd : d <+: s.drop off) :
    Image (writeAt f off d) s := by
  fun_induction writeAt f off d generalizing s with
  | case1 => exact h
  | case2 f d _ =>
    obtain ⟨t, rfl⟩ := hd
    have := image_drop h d.length
    rw [List.drop_left] at this
    exact image_append_left d this
  | case3 off d hne ih =>
    cases s with
    | nil => exact absurd (List.prefix_nil.mp hd) hne
    | cons c t => exact .cons (.inr rfl) (ih (.nil _) hd)
  | case4 _ _ _ _ _ ih =>
    cases h with
    | cons hb ht => exact .cons hb (ih ht hd)

/-- **Cache file.** Whatever the interleaving of any number of writers (each truncating, then
    writing the same bytes `S` chunk by chunk at its own offset) and readers, every image a
    reader sees agrees with `S` except for zero-filled holes and is never longer than `S`:
    it is `S` itself or a damaged copy.  (That a damaged copy does not unpickle to another listing is the
    assumption `holesFail` of `reader_gets_S_or_miss`.) -/
theorem cache_any_schedule (S : List Nat) (chunks : List Nat) (n : Nat) (sched : List FOp) :
    ∀ img ∈ (frun S chunks { file := [], writers := List.replicate n ⟨0, []⟩, reads := [] } sched).reads, Image img S := by
  refine (List.foldlRecOn (motive := fun s : FSys => Image s.file S ∧ ∀ img ∈ s.reads, Image img S) sched _
    ⟨.nil _, by simp⟩ ?_).2
  rintro s ⟨h1, h2⟩ op -
  fun_cases fstep S chunks s op
  case case1 => exact ⟨.nil _, h2⟩                                                  -- truncated
  -- a piece of `S` written at its own offset keeps the file an image of `S`
  case case5 => exact ⟨image_writeAt h1 _ _ (List.take_prefix _ _), h2⟩
  case case6 => exact ⟨h1, List.forall_mem_cons.mpr ⟨h1, h2⟩⟩                         -- read
  all_goals exact ⟨h1, h2⟩                                                          -- no such writer, nothing left to write

/-- with the unpickler refusing damaged copies (`holesFail`), every reader gets the listing `S` encodes or a
    cache miss; what a miss is answered with is C11's matter and not in the statement -/
theorem reader_gets_S_or_miss {L : Type} (load : List Nat → Option L) (S : List Nat) (l : L)
    (hS : load S = some l) (holesFail : ∀ img, Image img S → img ≠ S → load img = none)
    (img : List Nat) (hi : Image img S) : load img = some l ∨ load img = none := by
  by_cases h : img = S
  · left; rw [h, hS]
  · right; exact holesFail img hi h

/-! W0 writes 2 of 4 bytes, W1 truncates, W0 writes its second chunk past the end -/
example : (frun [5,6,7,8] [2,2] { file := [], writers := [⟨0, []⟩, ⟨0, []⟩], reads := [] }
    [.openTrunc 0, .writeNext 0, .read, .openTrunc 1, .writeNext 0, .read, .writeNext 1, .writeNext 1, .read]).reads =
    [[5,6,7,8], [0,0,7,8], [5,6]] := by decide

end Pyg.Props.C14
