import PygVerif.Generated
import PygVerif.Lemmas.Doc
import PygVerif.Lemmas.Site
import PygVerif.Lemmas.SiteServe
import PygVerif.Model.Serve
import PygVerif.Lemmas.Frame
/-!
# C04 — Documents are delivered byte-for-byte with truthful length and type

`Generated.copyBlock` is the block size read from `VFS_Real.copyto` on every run.
-/
namespace Pyg.Props.C04
open Pyg

theorem copyBlock_pos : 0 < Generated.copyBlock := by decide

/-- **Byte-for-byte.** For every byte string, the `read(copyBlock)` loop hands the client
    exactly the file's bytes. -/
theorem copy_is_identity (bs : Bytes) : copyto Generated.copyBlock bs = bs :=
  chunks_flatten _ copyBlock_pos bs

/-- for any positive block size (the property does not depend on 4096) -/
theorem copy_is_identity_any_block (n : Nat) (hn : 0 < n) (bs : Bytes) : copyto n bs = bs :=
  chunks_flatten n hn bs

/-- every block written is non-empty and at most one block long (the loop stops exactly at EOF) -/
theorem blocks_bounded (bs : Bytes) :
    ∀ c ∈ chunks Generated.copyBlock bs, c.length ≤ Generated.copyBlock ∧ c ≠ [] :=
  chunks_bound _ bs

/-- a zero block size would copy nothing: the positivity obligation above is not idle -/
theorem zero_block_copies_nothing (bs : Bytes) : copyto 0 bs = [] := by
  simp [copyto, chunks]

/-- **Truthful length.** When the entry's size is the file's length, the number in the Gopher+
    `+N` header equals the number of body bytes that follow, and those bytes are the file. -/
theorem gplus_length (bs : Bytes) :
    splitCrlf (gplusDoc (some bs.length) (copyto Generated.copyBlock bs)) =
      (43 :: toDec bs.length, bs) := by
  rw [copy_is_identity]
  exact splitCrlf_gplusDoc _ bs

theorem gplus_unknown (body : Bytes) : splitCrlf (gplusDoc none body) = (lit "+-2", body) := by
  rw [gplusDoc, lit_ofList, lit_ofList]
  exact splitCrlf_append _ body (by decide)

theorem head_is_get_headers (lm : Option Str) (ct : Str) (body : Bytes) :
    httpResp .head lm ct body = httpHeaders lm ct ∧
    httpResp .get lm ct body = httpResp .head lm ct body ++ body := by
  simp [httpResp]

/-! End to end (`Model/Serve`): for every file tree (seen through any `st`), every configuration and every
    selector. -/

/-- the entry of a file served by a file handler carries the file's length -/
theorem file_entry_size (c : SiteCfg) (st : StatFn) (sel : Str) (d : Bytes) (e : Entry)
    (hd : dispatch c st sel = .file ∨ dispatch c st sel = .htmlFile) (hst : st sel = some (.file d))
    (he : entryAt c st sel = some e) : e.size = some d.length := by
  -- `populateWith_file_size` for an entry that is fresh (not populated; no host, port or size): stated for a variable
  -- `e0`, so that the four side conditions are rewrites and not evaluations of a record literal
  have key (e0 : Entry) (h0 : e0 = { selector := sel }) := populateWith_file_size c.eaexts c.defaultMime
    { stat := { kind := .file, size := d.length, mtime := c.mtime, ctime := c.mtime }, guess := c.guess sel,
      gtype := c.typeOf (mimeOf c sel), sidecars := sidecarsAt c st sel false } e0
    (by rw [h0]) (by rw [h0]) (by rw [h0]) (by rw [h0]) (by simp)
  unfold entryAt popAt at he
  rcases hd with hd | hd <;>
    simp only [hst, hd, Option.map_some, reduceCtorEq, if_false, if_true, Option.some.injEq] at he <;> subst he
  · exact key _ rfl
  · split <;> exact key _ rfl          -- the HTML-title handler renames the entry, and leaves its size

/-- **The file's bytes, and nothing after them.**  When the handler chain answers a selector with a
    document, the response of Gopher, Gemini, Spartan and HTTP GET is the protocol's header text (none for
    Gopher) followed by one piece: the bytes of the file, unchanged; HTTP HEAD is the header alone.  Gopher+
    is `gplus_document_end_to_end`; WAP, which converts text documents, is not in the statement. -/
theorem document_bytes_every_protocol (c : ServeCfg) (st : StatFn) (rq : Parsed) (e : Entry) (d : Bytes)
    (hh : handled c st rq.selector = .document e d) (hi : rq.geminiInput = none) (hb : rq.badRequest = false)
    (hicon : isPrefixB (lit "/PYGOPHERD-HTTPPROTO-ICONS/") rq.selector = false) :
    respondParsed c st .gopher rq = some [.bytes d] ∧
    respondParsed c st .sgopher rq = some [.bytes d] ∧
    respondParsed c st .gemini rq = some [.text (statusLine (lit "20") (geminiAdjust e.mimetype)), .bytes d] ∧
    respondParsed c st .spartan rq = some [.text (statusLine (lit "2") (geminiAdjust e.mimetype)), .bytes d] ∧
    (rq.head = false → respondParsed c st .http rq = some [.text (httpHeaders none (httpAdjust e.mimetype)), .bytes d]) ∧
    (rq.head = true → respondParsed c st .http rq = some [.text (httpHeaders none (httpAdjust e.mimetype))]) := by
  simp [respondParsed, hh, hi, hb, Wire.ofProto, hicon]

/-- **Gopher+ `+` and `$` on a document: truthful length, then the bytes.**  The status line
    carries the file's exact length and the body read back from the response is the file. -/
theorem gplus_document_end_to_end (c : ServeCfg) (st : StatFn) (rq : Parsed) (e : Entry) (d : Bytes) (g : Str)
    (hh : handled c st rq.selector = .document e d) (hi : rq.geminiInput = none) (hb : rq.badRequest = false)
    (hg : rq.gplus = some g) (hne : (g == lit "!") = false) :
    ∃ ps, respondParsed c st .gopherp rq = some ps ∧ flattenPieces ps = gplusDoc (some d.length) d ∧
      splitCrlf (flattenPieces ps) = (43 :: toDec d.length, d) := by
  have hs := handled_spec c st rq.selector
  rw [hh] at hs
  obtain ⟨he, hst, hd⟩ := hs
  have hsz := file_entry_size c.site st rq.selector d e hd hst he
  have hfl : flattenPieces [.text ([43] ++ toDec d.length ++ [13, 10]), .bytes d] = gplusDoc (some d.length) d := by
    simp [flattenPieces, Piece.raw, gplusDoc]
  refine ⟨_, ?_, hfl, ?_⟩
  · simp [respondParsed, hh, hi, hb, Wire.ofProto, hg, hne, hsz]
  · rw [hfl]; exact splitCrlf_gplusDoc _ d

/-- **The HTTP HEAD response is a prefix of the GET response**: for every request that both forms
    answer — documents, directory pages and not-found alike — the bytes of the HEAD response are
    a prefix of the bytes of the GET response (for documents they are exactly the header:
    `document_bytes_every_protocol`; the not-found answer is the same page for both). -/
theorem head_end_to_end (c : ServeCfg) (st : StatFn) (rq : Parsed) (ps qs : List Piece)
    (h : respondParsed c st .http { rq with head := true } = some ps)
    (h2 : respondParsed c st .http { rq with head := false } = some qs) :
    flattenPieces ps <+: flattenPieces qs := by
  -- the HTTP slice of `respondParsed`, once with and once without the body
  simp only [respondParsed, Wire.ofProto, beq_iff_eq, reduceCtorEq, reduceIte, Bool.false_eq_true] at h h2
  by_cases hb : rq.badRequest = true
  · rw [if_pos hb] at h; cases h
  by_cases hi : rq.geminiInput.isSome = true
  · rw [if_neg hb, if_pos hi] at h; cases h
  by_cases hc : isPrefixB (lit "/PYGOPHERD-HTTPPROTO-ICONS/") rq.selector = true
  · rw [if_neg hb, if_neg hi, if_pos hc] at h; cases h
  rw [if_neg hb, if_neg hi, if_neg hc] at h h2
  cases hh : handled c st rq.selector <;> simp only [hh] at h h2
  case notFound m => cases h; cases h2; exact List.prefix_refl _
  case document e d => cases h; cases h2; simp [flattenPieces, Piece.raw]
  case page e t => cases h; cases h2; simp [flattenPieces, Piece.raw]
  case crash => cases h
  case menu self es =>
    by_cases hpt : c.pagetopper = true
    · rw [if_pos hpt] at h; cases h
    rw [if_neg hpt] at h h2
    split at h2
    · cases h; cases h2; simp [flattenPieces, Piece.raw, List.append_assoc]
    · cases h2

/-- the conversion is injective on right-stripped line lists: read both bodies back (`unwml_wmlBody`) with fuel enough
    for either -/
theorem wmlBody_injective (a b : List Str) (ha : ∀ l ∈ a, 10 ∉ rstrip l) (hb : ∀ l ∈ b, 10 ∉ rstrip l)
    (h : wmlBody a = wmlBody b) : a.map rstrip = b.map rstrip := by
  rw [← unwml_wmlBody a ha _ (Nat.le_max_left _ b.length), h, unwml_wmlBody b hb _ (Nat.le_max_right ..)]

theorem wml_injective (a b : List Str) (ha : ∀ l ∈ a, 10 ∉ rstrip l) (hb : ∀ l ∈ b, 10 ∉ rstrip l)
    (hlen : a.length = b.length) (h : wmlBody a = wmlBody b) : a.map rstrip = b.map rstrip :=
  wmlBody_injective a b ha hb h

/-! ### MIME type is the table's answer, adjusted per protocol -/

theorem mime_plain_file (m dflt : Str) (hm : m ≠ []) :
    entryMime (some m, none) dflt = m ∧ httpAdjust (some (entryMime (some m, none) dflt)) =
      (if m = lit "application/gopher-menu" then lit "text/html" else m) := by
  simp [entryMime, httpAdjust, List.isEmpty_eq_false_iff.mpr hm]

theorem mime_encoded_file (m : Option Str) (e dflt : Str) :
    entryMime (m, some e) dflt = lit "application/octet-stream" := by
  cases m <;> simp [entryMime]

theorem mime_unknown_file (dflt : Str) : entryMime (none, none) dflt = dflt := rfl

example : chunks 4 [1,2,3,4,5,6,7,8,9] = [[1,2,3,4],[5,6,7,8],[9]] := by decide +kernel
example : wmlBody [lit "a<b  \n", lit "\n", lit "c\r\n"] = lit "a&lt;b\n</p>\n<p>c\n" := by
  repeat rw [lit_ofList]
  decide +kernel
example : unwml 3 (lit "a&lt;b\n</p>\n<p>c\n") = [lit "a<b", [], lit "c"] := by
  repeat rw [lit_ofList]
  decide +kernel

end Pyg.Props.C04
