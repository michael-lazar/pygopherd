import PygVerif.Generated
import PygVerif.Model.Site
import PygVerif.Model.Umn
import PygVerif.Lemmas.Str
import PygVerif.Lemmas.Collect
/-!
# C07 — A listing is exactly the visible entries, once each, in a stable order
-/
namespace Pyg.Props.C07
open Pyg

/-- the shipped ignore pattern lies inside the modelled regex fragment -/
theorem ignorePatt_supported : (parseRegex Generated.ignorePatt).isSome = true := by decide +kernel

def childLe (a b : Child) : Bool := strLe a.name b.name

theorem childLe_trans (a b c : Child) : childLe a b = true → childLe b c = true → childLe a c = true :=
  strLe_trans _ _ _

theorem childLe_total (a b : Child) : (childLe a b || childLe b a) = true := by
  rcases strLe_total a.name b.name with h | h <;> simp [childLe, h]

theorem walk_sorted (kids : List Child) :
    (kids.mergeSort childLe).Pairwise (fun a b => strLe a.name b.name = true) :=
  List.pairwise_mergeSort (le := childLe) childLe_trans childLe_total kids

/-- **Independent of the enumeration order.** If two enumerations of a directory are
    permutations of one another (and a name identifies a member), the listing is the same:
    same entries, same order — for the plain and for the UMN handler, link files included. -/
theorem listing_perm_invariant (c : DirCfg) (d : Str) (k₁ k₂ : List Child) (hp : k₁.Perm k₂)
    (hname : ∀ a ∈ k₁, ∀ b ∈ k₁, a.name = b.name → a = b) :
    dirListing c d k₁ = dirListing c d k₂ := by
  have p1 := List.mergeSort_perm k₁ childLe
  have p2 := List.mergeSort_perm k₂ childLe
  have hs : k₁.mergeSort childLe = k₂.mergeSort childLe :=
    List.Perm.eq_of_pairwise (le := fun a b => childLe a b = true)
      (fun a b ha hb h1 h2 => hname a (p1.mem_iff.mp ha) b (hp.mem_iff.mpr (p2.mem_iff.mp hb)) (strLe_antisymm _ _ h1 h2))
      (walk_sorted k₁) (walk_sorted k₂) ((p1.trans hp).trans p2.symm)
  rw [dirListing_eq_listWalk, dirListing_eq_listWalk]
  exact congrArg _ hs

/-- **Exactly the visible entries.** The plain handler's listing is, in name order, the entry
    of every member that the ignore pattern does not match and that can be served — nothing
    else, nothing twice. -/
theorem plain_listing_exact (c : DirCfg) (hc : c.umn = false) (d : Str) (kids : List Child) :
    dirListing c d kids =
      some (((kids.mergeSort childLe).filter (visibleName c (if d == [47] then [] else d))).filterMap
        fun ch => ch.entry.map (·.1)) := by
  rw [dirListing_eq_listWalk, listWalk,
    collect_total (h := fun _ => []) fun ch _ => by simp [linksOf, hc],
    collect_total (h := fun ch => (ch.entry.map (·.1)).toList) fun ch _ => by cases h : ch.entry <;> simp [childEntry, hc, h]]
  simp only [Option.bind_some, hc, Bool.not_false, if_true, flatMap_toList]
  rfl

/-- the listed entries are those of the visible, servable members (plain handler) -/
theorem plain_listed_iff (c : DirCfg) (hc : c.umn = false) (d : Str) (kids : List Child) (es : List Entry)
    (h : dirListing c d kids = some es) (e : Entry) :
    e ∈ es ↔ ∃ ch ∈ kids, ∃ b, ch.entry = some (e, b) ∧ visibleName c (if d == [47] then [] else d) ch = true := by
  rw [plain_listing_exact c hc] at h
  cases h
  simp only [List.mem_filterMap, List.mem_filter, (List.mergeSort_perm kids childLe).mem_iff, Option.map_eq_some_iff]
  exact ⟨fun ⟨ch, ⟨hk, hv⟩, p, hp, hpe⟩ => ⟨ch, hk, p.2, by rw [← hpe, hp], hv⟩,
    fun ⟨ch, hk, b, hb, hv⟩ => ⟨ch, ⟨hk, hv⟩, _, hb, rfl⟩⟩

theorem plain_all_listed (c : DirCfg) (hc : c.umn = false) (d : Str) (kids : List Child) (es : List Entry)
    (h : dirListing c d kids = some es) (ch : Child) (hk : ch ∈ kids)
    (hv : visibleName c (if d == [47] then [] else d) ch = true) (e : Entry) (b : Bool) (he : ch.entry = some (e, b)) :
    e ∈ es :=
  (plain_listed_iff c hc d kids es h e).mpr ⟨ch, hk, b, he, hv⟩

/-- which handler claims a selector and the kind of answer it gives (not-found, a menu, a document
    with its bytes: `Served`, `Model/Site`) do not depend on the listing configuration: neither the
    ignore pattern, nor dot-file hiding, nor the choice of directory handler, nor extension
    stripping takes part in resolving a selector -/
theorem serve_ignores_listing_cfg (c : SiteCfg) (d' : DirCfg) (st : StatFn) (sel : Str) :
    serve { c with dir := d' } st sel = serve c st sel ∧ dispatch { c with dir := d' } st sel = dispatch c st sel :=
  ⟨rfl, rfl⟩

/-- **Hidden but retrievable.**  A regular file whose selector passes the security filter is
    served with its own bytes when requested by exact selector — whether or not a listing shows
    it (dot file, ignore pattern, `Type=X`, `.cap` override all act on listings only).  Set aside
    by hypothesis: a selector the URL handler claims; with the gophermap handler configured, a file
    named `*.gophermap` (served as the menu it holds); a selector that ends in `/<cachefile>`
    (`cache_file_not_served`). -/
theorem hidden_still_retrievable (c : SiteCfg) (st : StatFn) (sel : Str) (d : Bytes)
    (hs : secureB c.forbidden sel = true) (hst : st sel = some (.file d))
    (hu : (c.url && urlSecureB c.urlForbidden sel) = false)
    (hg : (c.gophermap && endsWithGophermap sel) = false)
    (hcf : isSuffixB (47 :: c.cachefile) sel = false) : serve c st sel = .document d := by
  by_cases hh : (c.htmlTitles && c.isHtml sel) = true <;> simp [serve, dispatch, hs, hst, hg, hu, hh, hcf]

/-- a regular file asked for by a selector that ends in `/<cachefile>` — the directory handler's own
    cache file, the server's and not content — is answered not-found (`FileHandler.isdircachefile`).
    The test is on the selector as requested: with one more slash at its end the selector still
    reaches the file (`getfspath`, `statAt`), `hcf` fails, and `hidden_still_retrievable` applies —
    in the model as in the code -/
theorem cache_file_not_served (c : SiteCfg) (st : StatFn) (sel : Str) (d : Bytes)
    (hs : secureB c.forbidden sel = true) (hst : st sel = some (.file d))
    (hu : (c.url && urlSecureB c.urlForbidden sel) = false)
    (hg : (c.gophermap && endsWithGophermap sel) = false)
    (hcf : isSuffixB (47 :: c.cachefile) sel = true) : serve c st sel = .notFound := by
  simp [serve, dispatch, hs, hst, hg, hu, hcf]

/-- dot files are never listed by the UMN handler; ignored names by neither -/
theorem umn_hides_dotfiles (c : DirCfg) (hc : c.umn = true) (base : Str) (ch : Child)
    (h : ch.name.head? = some 46) : visibleName c base ch = false := by
  simp [visibleName, hc, h]

theorem ignored_hidden (c : DirCfg) (base : Str) (ch : Child)
    (h : reSearch c.ignore (base ++ [47] ++ ch.name) = true) : visibleName c base ch = false := by
  unfold visibleName; rw [h]; rfl

/-! ### sharp edges of the shipped pattern, as the code has them -/
def edgeVerdicts (a : List RAlt) : List Bool :=
  [reSearch a (lit "/d/file~"), reSearch a (lit "/d/gophermap"), reSearch a (lit "/d/xcap"),
   reSearch a (lit "/d/q.askew"), reSearch a (lit "/d/lib"), reSearch a (lit "/d/lib64"),
   reSearch a (lit "/d/a~\n"), reSearch a (lit "/d/.cache.pygopherd.dir"), reSearch a (lit "/d/README")]

theorem shipped_pattern_edges :
    (parseRegex Generated.ignorePatt).map edgeVerdicts =
      some [true, true, true, true, true, false, true, true, false] := by
  unfold edgeVerdicts
  repeat rw [lit_ofList]
  decide +kernel

end Pyg.Props.C07
