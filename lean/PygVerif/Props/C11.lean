import PygVerif.Model.Cache
/-!
# C11 — A cache file cut off at any byte is harmless

`load` is the unpickler (an oracle).  The only assumption on it is `PrefixFails`: no strict
prefix of a file the server wrote loads — validated exhaustively on the real pickles by the
harness (every prefix length of every generated cache file) and shown satisfiable here by a
concrete prefix-free serializer.
-/
namespace Pyg.Props.C11
open Pyg.Cache

variable {L : Type}

/-- no strict prefix of a written file loads -/
def PrefixFails (load : List Nat → Option L) (written : List Nat) : Prop :=
  ∀ p, p <+: written → p ≠ written → load p = none

/-- **A cache file that does not load is a cache miss**: the request is answered with the
    regenerated listing (`fresh`, whatever it is). -/
theorem bad_cache_is_miss (load : List Nat → Option L) (bytes : List Nat) (fresh : L)
    (h : load bytes = none) : listWithCache load (some bytes) fresh = fresh := by
  simp [listWithCache, h]

/-- **Cut off at any byte.** For every truncation point `k`, the next request returns either
    the cached listing (file complete) or the regenerated one — never anything else. With a
    cache that was written for the current directory both are the correct listing. -/
theorem prefix_harmless (load : List Nat → Option L) (written : List Nat) (cached fresh : L)
    (hload : load written = some cached) (hp : PrefixFails load written) (k : Nat) :
    listWithCache load (some (written.take k)) fresh = (if written.length ≤ k then cached else fresh) := by
  by_cases hk : written.length ≤ k
  · simp [listWithCache, List.take_of_length_le hk, hload, hk]
  · have hne : written.take k ≠ written := fun e => hk (congrArg List.length e ▸ List.length_take_le k written)
    simp [listWithCache, hp _ (List.take_prefix k written) hne, hk]

/-- the listing served is correct whenever the complete cache is (transparent cache, C10) -/
theorem truncation_never_wrong (load : List Nat → Option L) (written : List Nat) (correct : L)
    (hload : load written = some correct) (hp : PrefixFails load written) (k : Nat) :
    listWithCache load (some (written.take k)) correct = correct := by
  rw [prefix_harmless load written correct correct hload hp k, ite_self]

/-- an empty (truncated-to-zero) file, the first thing a rewriting process produces -/
theorem empty_file_harmless (load : List Nat → Option L) (written : List Nat) (correct : L)
    (hload : load written = some correct) (hp : PrefixFails load written) (hne : written ≠ []) :
    listWithCache load (some []) correct = correct :=
  truncation_never_wrong load written correct hload hp 0

/-- the assumption is satisfiable: a length-prefixed serializer is prefix-free -/
theorem ser_prefix_fails (l : List Nat) : deser (ser l) = some l ∧ PrefixFails deser (ser l) := by
  refine ⟨by simp [ser, deser], fun p hp hne => ?_⟩
  cases p with
  | nil => rfl
  | cons n r =>
    obtain ⟨rfl, hr⟩ := List.cons_prefix_cons.mp hp
    -- a strict prefix holds fewer elements than its first element announces
    exact if_neg fun hlen => hne (congrArg _ (hr.eq_of_length hlen))

end Pyg.Props.C11
