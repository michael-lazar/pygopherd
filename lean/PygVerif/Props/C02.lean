import PygVerif.Generated
import PygVerif.Model.Proto
import PygVerif.Lemmas.Str
import PygVerif.Lemmas.Proto
/-!
# C02 — Protocol autodetection is deterministic, ordered and strict about TLS

`Generated.shippedProtocols` and `Generated.waptop` are read from `/repo/conf/pygopherd.conf`
on every run.
-/
namespace Pyg.Props.C02
open Pyg

def shipped : List Proto := Generated.shippedProtocols.filterMap Proto.ofName

/-- every configured class name is one the model knows, in this order -/
theorem shipped_list :
    Generated.shippedProtocols.map Proto.ofName =
      [some .wap, some .gemini, some .http, some .https, some .spartan, some .gopherp,
       some .sgopherp, some .gopher, some .sgopher] := by
  unfold Proto.ofName
  repeat rw [lit_ofList]
  decide +kernel

theorem shipped_eq :
    shipped = [.wap, .gemini, .http, .https, .spartan, .gopherp, .sgopherp, .gopher, .sgopher] := by
  have h := congrArg (List.filterMap id) shipped_list
  rwa [List.filterMap_map] at h          -- both sides then agree with the goal by reduction

/-- **Ordered.** The answering protocol accepts the line, and every protocol configured
    before it rejects it. -/
theorem detect_first (w : Str) (ps : List Proto) (c : Conn) (p : Proto)
    (h : detect w ps c = some p) :
    can w p c = true ∧ ∃ pre post, ps = pre ++ p :: post ∧ ∀ q ∈ pre, can w q c = false := by
  obtain ⟨hp, pre, post, hps, hpre⟩ := List.find?_eq_some_iff_append.mp h
  exact ⟨hp, pre, post, hps, fun q hq => by simpa using hpre q hq⟩

/-- **Strict about TLS.** Whatever accepts a connection has `secure` equal to the
    connection's TLS flag: plaintext protocols never answer TLS and vice versa. -/
theorem can_strict (w : Str) (p : Proto) (c : Conn) (h : can w p c = true) : p.secure = c.tls := by
  -- the first conjunct of every `canhandlerequest` fixes the TLS flag
  cases p <;> simp only [can, wapCan, Bool.and_eq_true, beq_iff_eq, Bool.not_eq_true'] at h
  case gopher | sgopher => exact h
  case gopherp | sgopherp | http | https => exact h.1
  case wap => exact h.1.1.symm
  case gemini | spartan => exact h.1.symm

theorem detect_strict (w : Str) (ps : List Proto) (c : Conn) (p : Proto)
    (h : detect w ps c = some p) : p.secure = c.tls :=
  can_strict w p c (detect_first w ps c p h).1

/-- **Total.** With both catch-all classes configured, every line on every kind of
    connection is claimed by some protocol. -/
theorem detect_total (w : Str) (ps : List Proto) (hg : Proto.gopher ∈ ps) (hs : Proto.sgopher ∈ ps)
    (c : Conn) : ∃ p, detect w ps c = some p := by
  refine Option.isSome_iff_exists.mp (List.find?_isSome.mpr ?_)
  cases htls : c.tls
  · exact ⟨.gopher, hg, by simp [can, Proto.secure, htls]⟩
  · exact ⟨.sgopher, hs, by simp [can, Proto.secure, htls]⟩

/-- **Deterministic.** Connections that agree on the TLS flag, the first line and the following header lines
    (which WAP sniffs) get the same answer.  `Conn` has exactly these three fields, so the statement holds of
    any function of a `Conn`: that detection looks at nothing else is the modelling decision made in the
    signature of `detect`, which this theorem records and does not prove. -/
theorem detect_deterministic (w : Str) (ps : List Proto) (c₁ c₂ : Conn)
    (ht : c₁.tls = c₂.tls) (hl : c₁.line = c₂.line) (hr : c₁.rest = c₂.rest) :
    detect w ps c₁ = detect w ps c₂ := by
  cases c₁; simp_all

theorem gopher_claims_everything (w : Str) (c : Conn) : can w .gopher c = !c.tls := by
  simp [can, Proto.secure]

theorem gopherp_shape (w : Str) (c : Conn) :
    can w .gopherp c = true ↔
      c.tls = false ∧ ∃ g, gopherpString c.line = some g ∧ g ≠ [] ∧
        (g.head? = some 43 ∨ g = [33] ∨ g.head? = some 36) := by
  simp only [can, Proto.secure, Bool.and_eq_true, beq_iff_eq, ← isGplusString_iff]
  cases gopherpString c.line <;> simp

theorem http_shape (w : Str) (c : Conn) :
    can w .http c = true ↔
      c.tls = false ∧ ∃ m path v, requestParts c.line = [m, path, v] ∧
        (m = lit "GET" ∨ m = lit "HEAD") ∧ lit "HTTP/" <+: v := by
  simp only [can, Proto.secure, Bool.and_eq_true, beq_iff_eq, httpShape]
  constructor
  · rintro ⟨h1, h2⟩
    refine ⟨h1.symm, ?_⟩
    split at h2
    · rename_i m p v heq
      simp only [Bool.and_eq_true, Bool.or_eq_true, beq_iff_eq] at h2
      exact ⟨m, p, v, heq, h2.1, (isPrefixB_iff _ _).mp h2.2⟩
    · exact absurd h2 (by simp)
  · rintro ⟨h1, m, p, v, heq, hm, hv⟩
    refine ⟨h1.symm, ?_⟩
    rw [heq]
    simp only [Bool.and_eq_true, Bool.or_eq_true, beq_iff_eq]
    exact ⟨hm, (isPrefixB_iff _ _).mpr hv⟩

theorem gemini_shape (w : Str) (c : Conn) :
    can w .gemini c = (c.tls && isPrefixB (lit "gemini://") c.line) := rfl

theorem spartan_plaintext_ascii (w : Str) (c : Conn) (h : can w .spartan c = true) :
    c.tls = false ∧ ∀ ch ∈ c.line, ch < 128 := by
  simp only [can, spartanShape, isAsciiStr, Bool.and_eq_true, Bool.not_eq_true',
    List.all_eq_true, decide_eq_true_eq] at h
  exact ⟨h.1, h.2.1⟩

theorem sniff_tls_iff (s : Bytes) : (sniff s).1 = true ↔ s.head? = some 0x16 := by
  simp [sniff]

theorem sniff_consumes_nothing (s : Bytes) : (sniff s).2 = s := rfl

example : detect Generated.waptop shipped ⟨false, lit "GET / HTTP/1.0\r\n", []⟩ = some .http := by
  rw [shipped_eq, lit_ofList]; decide +kernel
example : detect Generated.waptop shipped ⟨false, lit "/README\t+\r\n", []⟩ = some .gopherp := by
  rw [shipped_eq, lit_ofList]; decide +kernel
example : detect Generated.waptop shipped ⟨false, lit "/README\t\r\n", []⟩ = some .gopher := by
  rw [shipped_eq, lit_ofList]; decide +kernel
example : detect Generated.waptop shipped ⟨true, lit "gemini://h/\r\n", []⟩ = some .gemini := by
  rw [shipped_eq, lit_ofList]; decide +kernel
example : detect Generated.waptop shipped ⟨false, lit "GET /wap/x HTTP/1.0\r\n", []⟩ = some .wap := by
  rw [shipped_eq, lit_ofList]; decide +kernel
example : detect Generated.waptop shipped ⟨false, lit "GET /wapiti HTTP/1.0\r\n", []⟩ = some .http := by
  rw [shipped_eq, lit_ofList]; decide +kernel

end Pyg.Props.C02
