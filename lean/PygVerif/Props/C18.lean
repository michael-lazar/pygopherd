import PygVerif.Lemmas.TalRefine
import PygVerif.Lemmas.TalSafety
import PygVerif.Lemmas.Doc
/-!
# C18 — simpleTAL never lets data become markup, code or leftover state

The statements about a whole expansion are about the stack machine `expand` on the compiled
template (the model of `Template.expand`), with some amount of fuel, and come from the tree
semantics through `run_refines_denote`.  The others are about the functions that write data
(`contentText`, `tagAsText`, `htmlEscape`), the TALES evaluator and the predicate `Gen`.
-/
namespace Pyg.Props.C18
open Pyg Pyg.Tal

/-- with some amount of fuel the machine halts with `denoteList`'s result (and with no amount with another:
    `Tal.expand_denote`) -/
theorem expand_eq (py : Str → Val) (t : List Node) (ctx : Ctx) :
    ∃ fuel, expand py fuel t ctx = some (denoteList py t ctx) := run_refines_denote py t ctx

/-- **Text is escaped unless the template says `structure`.** -/
theorem text_escaped (v : Val) : contentText (some (false, v)) = htmlEscape false (render v) := by
  simp [contentText]
theorem structure_is_raw (v : Val) : contentText (some (true, v)) = render v := by simp [contentText]

/-- escaped text contains neither `<` nor `>`; escaped attribute values contain no quote either -/
theorem escaped_text_inert (s : Str) : ∀ c ∈ htmlEscape false s, c ≠ 60 ∧ c ≠ 62 := htmlEscape_no_angle false s
theorem escaped_attr_inert (s : Str) : ∀ c ∈ htmlEscape true s, c ≠ 60 ∧ c ≠ 62 ∧ c ≠ 34 ∧ c ≠ 39 :=
  fun c hc => htmlMeta_eq_false_iff.mp (htmlEscape_no_meta s c hc)

/-- every attribute value is written through `html.escape(v, quote=True)` between its quotes -/
theorem attributes_escaped (tag : Str) (atts : List (Str × Str)) (sg : Bool) :
    tagAsText tag atts sg = [60] ++ tag ++ (atts.map fun kv => [32] ++ kv.1 ++ lit "=\"" ++ htmlEscape true kv.2 ++ [34]).flatten ++
      (if sg then lit " />" else [62]) := rfl

/-- **Data can never introduce markup.** For a template without the `structure` keyword, the
    document the machine produces is generated from the template's own strings (static text,
    `<tag`, `</tag>`, ` name="`, the fixed punctuation) and HTML-escaped strings only — for
    every context, however hostile its values. -/
theorem data_never_markup (py : Str → Val) (t : List Node) (ctx : Ctx) (h : noStructureList t = true) :
    ∃ fuel out c', expand py fuel t ctx = some (out, c') ∧ Gen (fun s => s ∈ punct ∨ s ∈ staticsList t) out := by
  obtain ⟨f, hf⟩ := run_refines_denote py t ctx
  exact ⟨f, _, _, hf, gen_denoteList py (fun s hs => Or.inl hs) t ctx h (fun s hs => Or.inr hs)⟩

/-- a reading of `Gen`: the output is a concatenation of pieces, each either one of the template's
    own strings or an escaped string -/
theorem gen_pieces {S : Str → Prop} {x : Str} (g : Gen S x) :
    ∃ ps : List (Str ⊕ (Bool × Str)),
      x = (ps.map fun p => match p with | .inl s => s | .inr (q, d) => htmlEscape q d).flatten ∧ ∀ s, .inl s ∈ ps → S s := by
  induction g with
  | nil => exact ⟨[], rfl, by simp⟩
  | @lit s hs => exact ⟨[.inl s], by simp, by simpa using hs⟩
  | esc q d => exact ⟨[.inr (q, d)], by simp, by simp⟩
  | app _ _ iha ihb =>
    obtain ⟨pa, ea, ha⟩ := iha
    obtain ⟨pb, eb, hb⟩ := ihb
    exact ⟨pa ++ pb, by simp [ea, eb], fun s hs => (List.mem_append.mp hs).elim (ha s) (hb s)⟩

/-- so: if no string of the template contains `<`, no data can put one into the document.  (An element's `<tag` is one
    of its strings, so `hs` is met by templates of text nodes only; for templates with elements the fact is
    `data_never_markup`.) -/
theorem no_angle_from_data (py : Str → Val) (t : List Node) (ctx : Ctx) (h : noStructureList t = true)
    (hs : ∀ s ∈ staticsList t, 60 ∉ s) : ∃ fuel out c', expand py fuel t ctx = some (out, c') ∧ 60 ∉ out := by
  obtain ⟨f, out, c', he, g⟩ := data_never_markup py t ctx h
  refine ⟨f, out, c', he, gen_absent (fun q x h => (htmlEscape_no_angle q x 60 h).1 rfl) ?_ g⟩
  rintro s (hp | hst)
  · exact (by decide : ∀ s ∈ punct, 60 ∉ s) s hp
  · exact hs s hst

/-- the `python:` oracle is a parameter of the model; with `allowPython = false` no expression —
    however nested in alternation, `not:`, `exists:`, `string:` — depends on it -/
theorem python_gate_expr (py1 py2 : Str → Val) (c : Ctx) (h : c.allowPython = false) (e : Str) :
    eval py1 c e = eval py2 c e := congrFun (eval_gate py1 py2 h c.attrs) e

/-- a `python:` expression in particular gives what it gives under the oracle that answers `None`.  Whatever the
    name says, the statement is this independence only: which value that is (the model's is `0`) it does not say -/
theorem python_expr_is_false (py : Str → Val) (c : Ctx) (h : c.allowPython = false) (e : Str) :
    evalFuel py 8 c (lit "python:" ++ e) = evalFuel (fun _ => .none) 8 c (lit "python:" ++ e) :=
  evalFuel_gate py _ c h 8 _

/-- **Never evaluated**: the whole expansion (output and context) is independent of the `python:`
    oracle when Python paths are off. -/
theorem python_never_evaluated (py1 py2 : Str → Val) (t : List Node) (ctx : Ctx) (h : ctx.allowPython = false) :
    ∃ f1 f2 r, expand py1 f1 t ctx = some r ∧ expand py2 f2 t ctx = some r := by
  obtain ⟨f1, h1⟩ := run_refines_denote py1 t ctx
  obtain ⟨f2, h2⟩ := run_refines_denote py2 t ctx
  refine ⟨f1, f2, _, h1, ?_⟩
  rw [h2, denoteList_gate py1 py2 t ctx h]

/-- **Pass-through**: a template without TAL attributes expands to its own serialisation and
    leaves the context untouched, whatever the context.  (That the document, read again, is the
    same tree, so that a second expansion changes nothing, is outside the model: the parser is not
    in it.) -/
theorem talfree_passthrough (py : Str → Val) (t : List Node) (ctx : Ctx) (h : plainList t = true) :
    ∃ fuel, expand py fuel t ctx = some (serList t, ctx) := by
  obtain ⟨f, hf⟩ := run_refines_denote py t ctx
  exact ⟨f, by rw [hf, denoteList_plain py t ctx h]⟩

/-- **Context restoration**: after any expansion — missing paths, empty repeats, false
    conditions included — locals, the local-variable stack, repeat variables and their stack are
    exactly what they were. -/
theorem context_restored (py : Str → Val) (t : List Node) (ctx : Ctx) :
    ∃ fuel out c', expand py fuel t ctx = some (out, c') ∧ c'.locals = ctx.locals ∧ c'.localStack = ctx.localStack ∧
      c'.repeatMap = ctx.repeatMap ∧ c'.repeatStack = ctx.repeatStack := by
  obtain ⟨f, hf⟩ := run_refines_denote py t ctx
  have s := denoteList_same false py t ctx nofun
  exact ⟨f, _, _, hf, s.locals, s.stacks.localStack, s.repeatMap, s.stacks.repeatStack⟩

/-- … and a template without a global define anywhere leaves the globals as they were (of a template that has one,
    nothing is said about the other globals) -/
theorem globals_only_by_define (py : Str → Val) (t : List Node) (ctx : Ctx) (h : noGlobalDefineList t = true) :
    ∃ fuel out c', expand py fuel t ctx = some (out, c') ∧ c'.globals = ctx.globals := by
  obtain ⟨f, hf⟩ := run_refines_denote py t ctx
  exact ⟨f, _, _, hf, (denoteList_same true py t ctx fun _ => h).stacks.globals rfl⟩

/-- a template with a repeat, a local define, content and attributes satisfies the hypotheses -/
def sample : List Node :=
  [.elem (lit "ul") [] [] {} false false
    [.elem (lit "li") [(lit "class", lit "x")] [(lit "class", lit "x")]
      { define := some [⟨true, lit "t", lit "i"⟩], repeat_ := some (lit "i", lit "items"), content := some (false, false, lit "t"),
        attributes := some [(lit "title", lit "i")] } false false [.data (lit "dummy")]]]

example : noStructureList sample = true ∧ noGlobalDefineList sample = true ∧ plainList sample = false := by decide
example : plainList [.elem (lit "p") [(lit "a", lit "b")] [] {} false false [.data (lit "x")]] = true := by decide

end Pyg.Props.C18
