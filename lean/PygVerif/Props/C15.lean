import PygVerif.Generated
import PygVerif.Model.Listing
import PygVerif.Props.C13
import PygVerif.Props.C04
import PygVerif.Props.C05
import PygVerif.Props.C06
import PygVerif.Model.Serve
import PygVerif.Lemmas.EntryFrame
/-!
# C15 — Gopher+ item information is faithful
-/
namespace Pyg.Props.C15
open Pyg

/-- **+INFO is the menu line.** The `+INFO` block of an item is `+INFO: ` followed by exactly
    the plain Gopher renderer's line for the same entry (after the Gopher+ menu MIME rewrite,
    which does not touch any field the menu line shows). -/
theorem info_is_menu_line (srv : ServerId) (admin : Str) (md : Option Str) (e : Entry) (out : Str)
    (hno : e.ea.any (·.1 == lit "INFO") = false) (h : gplusBlocks srv admin md e = some out) :
    ∃ line, gopher0Line srv e = some line ∧ lit "+INFO: " ++ line <+: out := by
  obtain ⟨m, hm⟩ := gplusFix_frame e
  rw [gplusBlocks, hm, gopher0Line_mimetype] at h
  obtain ⟨line, hl, rfl⟩ := Option.map_eq_some_iff.mp h
  refine ⟨line, hl, ?_⟩
  simp only [hno, Bool.false_eq_true, if_false, List.append_assoc, List.prefix_append_right_inj, List.prefix_append]

/-- names of the blocks of an entry, in order -/
def blockNames (e : Entry) : List Str :=
  [lit "+INFO", lit "+ADMIN", lit "+VIEWS"] ++ e.ea.map fun kv => [43] ++ kv.1

/-- **Block structure.** The attribute listing is the concatenation of the INFO, ADMIN and
    VIEWS blocks followed by one block per extended attribute, in the entry's own order. -/
theorem block_structure (srv : ServerId) (admin : Str) (md : Option Str) (e : Entry) (line : Str)
    (hl : gopher0Line srv e = some line)
    (h1 : e.ea.any (·.1 == lit "INFO") = false) (h2 : e.ea.any (·.1 == lit "ADMIN") = false)
    (h3 : e.ea.any (·.1 == lit "VIEWS") = false) :
    gplusBlocks srv admin md e = some (lit "+INFO: " ++ line ++
      adminBlock admin (if (gplusFix e).mtime.getD 0 == 0 then none else md) ++ viewsBlock (gplusFix e) ++
      (e.ea.map fun (k, v) => eaBlock k v).flatten) := by
  obtain ⟨m, hm⟩ := gplusFix_frame e
  rw [gplusBlocks, hm]
  simp [gopher0Line_mimetype, hl, h1, h2, h3]

/-- **+VIEWS names the MIME type and the size in k.** -/
theorem views_block (e : Entry) (m : Str) (n : Nat) (hm : e.mimetype = some m) (hne : m ≠ [])
    (hl : e.language = none) (hs : e.size = some n) :
    viewsBlock e = lit "+VIEWS:\r\n " ++ m ++ lit ": <" ++ toDec (n / 1024) ++ lit "k>\r\n" := by
  have h1 : lit ": <" = [58] ++ lit " <" := by rw [lit_ofList, lit_ofList]; rfl
  have h2 : lit "k>\r\n" = lit "k>" ++ [13, 10] := by rw [lit_ofList, lit_ofList]; rfl
  simp only [viewsBlock, hm, hl, hs, List.isEmpty_eq_false_iff.mpr hne, h1, h2, Bool.false_eq_true, if_false,
    List.append_assoc, List.nil_append]

theorem views_block_no_size (e : Entry) (m : Str) (hm : e.mimetype = some m) (hne : m ≠ [])
    (hl : e.language = none) (hs : e.size = none) :
    viewsBlock e = lit "+VIEWS:\r\n " ++ m ++ lit ":\r\n" := by
  simp only [viewsBlock, hm, hl, hs, List.isEmpty_eq_false_iff.mpr hne, Bool.false_eq_true, if_false,
    List.append_assoc, List.append_nil]
  rfl

/-- the value stored for a sidecar: right-stripped lines joined by `\n` -/
def readEA (ls : List Str) : Str := joinWith 10 (ls.map rstrip)

/-- **Sidecar lines survive.** For printable sidecar lines (no embedded line boundary once
    right-stripped, none of them empty after stripping), the lines a client reads back from the
    block are exactly the sidecar's right-stripped lines. -/
theorem ea_block_roundtrip (ls : List Str)
    (hp : ∀ l ∈ ls, (∀ c ∈ rstrip l, isLineBreak c = false) ∧ rstrip l ≠ []) :
    splitlines (readEA ls) = ls.map rstrip :=
  splitlines_joinWith _ (by simpa using hp)

/-- and the block a client sees is the header plus those lines, each behind one space -/
theorem ea_block_lines (k : Str) (ls : List Str)
    (hp : ∀ l ∈ ls, (∀ c ∈ rstrip l, isLineBreak c = false) ∧ rstrip l ≠ []) :
    C13.eaBlockLines k (readEA ls) = ([43] ++ k ++ [58]) :: (ls.map rstrip).map fun l => [32] ++ l := by
  simp [C13.eaBlockLines, ea_block_roundtrip ls hp]

/-- **A `+` request for a document is prefixed by its exact length, or by the unknown marker**
    (shared with C04). -/
theorem doc_length_or_unknown (bs : Bytes) :
    splitCrlf (gplusDoc (some bs.length) (copyto Generated.copyBlock bs)) = (43 :: toDec bs.length, bs) ∧
    splitCrlf (gplusDoc none bs) = (lit "+-2", bs) :=
  ⟨C04.gplus_length bs, C04.gplus_unknown bs⟩

example : readEA [lit "first line  \n", lit "second\r\n"] = lit "first line\nsecond" := by
  repeat rw [lit_ofList]
  decide +kernel
example : gplusBlocks ⟨lit "h", 70⟩ (lit "adm") none
    { selector := lit "/a.txt", type := some (lit "0"), name := some (lit "a.txt"), gplus := true,
      mimetype := some (lit "text/plain"), size := some 2048, ea := [(lit "ABSTRACT", lit "x\ny")] } =
  some (lit "+INFO: 0a.txt\t/a.txt\th\t70\t+\r\n+ADMIN:\r\n Admin: adm\r\n+VIEWS:\r\n text/plain: <2k>\r\n+ABSTRACT:\r\n x\r\n y\r\n") := by
  repeat rw [lit_ofList]
  decide +kernel

/-! ### end to end: the item a listing shows is the item `!` and `$` describe (Model/Site, Model/Serve) -/

theorem listed_member_entryAt (c : SiteCfg) (st : StatFn) (base name : Str) (k : Node) (e : Entry) (isf : Bool)
    (h : (childOf c st base name k).entry = some (e, isf)) :
    dispatch c st (base ++ [47] ++ name) ≠ .notFound ∧ entryAt c st (base ++ [47] ++ name) = some e := by
  have h := childOf_entry_eq_some.mp h
  exact ⟨h.1, h.2.1⟩

/-- what the handler chain hands over for the selector of a listed member is built around the very entry the listing
    shows: never not-found, and every outcome that carries an entry carries that one -/
theorem handled_listed_member (c : ServeCfg) (st : StatFn) (base name : Str) (k : Node) (e : Entry) (isf : Bool)
    (h : (childOf c.site st base name k).entry = some (e, isf)) :
    match handled c st (base ++ [47] ++ name) with
    | .notFound _ => False
    | .menu self _ => self = e
    | .document x _ => x = e
    | .page x _ => x = e
    | .crash => True := by
  obtain ⟨hne, he⟩ := listed_member_entryAt c.site st base name k e isf h
  exact handled_entry hne he

/-- **`!` on a listed item answers with the listed entry's own blocks** (end to end, Model/Serve): whatever directory
    of whatever site the plain directory handler lists, a Gopher+ information request for the selector of any entry
    of that listing — if it is answered at all — is `+-2` followed by `gplusBlocks` of *that same entry*: the one the
    menu line, the `$` listing and every other protocol's view of the directory are rendered from. -/
theorem info_request_answers_with_listed_entry (c : ServeCfg) (hu : c.site.dir.umn = false) (st : StatFn) (sel : Str)
    (es : List Entry) (hd : dispatch c.site st sel = .dir) (h : siteEntries c.site st sel = some es)
    (e : Entry) (he : e ∈ es) (p : Proto) (hp : Wire.ofProto p = .gopherp) (rq : Parsed)
    (hsel : rq.selector = e.selector) (hg : rq.gplus = some (lit "!")) (hb : rq.badRequest = false)
    (hgi : rq.geminiInput = none) (ps : List Piece) (hr : respondParsed c st p rq = some ps) :
    ∃ b, gplusBlocks c.render.srv c.render.admin none e = some b ∧ ps = [.text (lit "+-2\r\n" ++ b)] := by
  obtain ⟨hne, hea⟩ := C05.plain_listing_entry c.site hu st sel es hd h e he
  rw [← hsel] at hne hea
  exact info_request_of_entry hp hg hb hgi hne hea hr

/-- ... and its `+INFO` line is the line the plain Gopher menu of the directory shows for the entry -/
theorem info_line_is_the_directory_menu_line (c : ServeCfg) (hu : c.site.dir.umn = false) (st : StatFn) (sel : Str)
    (es : List Entry) (hd : dispatch c.site st sel = .dir) (h : siteEntries c.site st sel = some es)
    (e : Entry) (he : e ∈ es) (hno : e.ea.any (·.1 == lit "INFO") = false)
    (p : Proto) (hp : Wire.ofProto p = .gopherp) (rq : Parsed)
    (hsel : rq.selector = e.selector) (hg : rq.gplus = some (lit "!")) (hb : rq.badRequest = false)
    (hgi : rq.geminiInput = none) (ps : List Piece) (hr : respondParsed c st p rq = some ps) :
    ∃ line b, gopher0Line c.render.srv e = some line ∧ ps = [.text (lit "+-2\r\n" ++ b)] ∧ lit "+INFO: " ++ line <+: b := by
  obtain ⟨b, hb', hps⟩ := info_request_answers_with_listed_entry c hu st sel es hd h e he p hp rq hsel hg hb hgi ps hr
  obtain ⟨line, hl, hpre⟩ := info_is_menu_line c.render.srv c.render.admin none e b hno hb'
  exact ⟨line, b, hl, hps, hpre⟩

/-- the hypotheses are met: a directory `/d` holding `a.txt`, claimed by the plain handler; `!` for `/d/a.txt` is answered
    (the listing itself sorts with `List.mergeSort`, which the kernel does not unfold: that `/d` lists `a.txt` is what the
    site correspondence runs on every check) -/
def exSite : SiteCfg :=
  { forbidden := Generated.forbidden, eaexts := [], defaultMime := lit "text/plain", gophermap := false,
    dir := { ignore := [], extstrip := lit "none", umn := false },
    guess := fun _ => (some (lit "text/plain"), none), typeOf := fun _ => lit "0", strip := fun n => n }
def exServe : ServeCfg :=
  { site := exSite, waptop := lit "/wap", protos := [],
    render := { srv := { name := lit "h", port := 70 }, iconmapping := [], waptop := lit "/wap", accesskeys := [], queryPrefix := [],
                admin := lit "adm", modDate := fun _ => none, abstractHeaders := false, abstractEntries := lit "never" } }
def exTree : Node := .dir [(lit "d", .dir [(lit "a.txt", .file (lit "hello\n"))])]

example : dispatch exSite (statAt exTree) (lit "/d") = .dir ∧
    ((respondParsed exServe (statAt exTree) .gopherp { selector := lit "/d/a.txt", search := none, gplus := some (lit "!") }).map
        fun ps => flattenPieces ps) =
      some (lit "+-2\r\n+INFO: 0a.txt\t/d/a.txt\th\t70\t+\r\n+ADMIN:\r\n Admin: adm\r\n+VIEWS:\r\n text/plain: <0k>\r\n") := by
  repeat rw [lit_ofList]
  decide +kernel

/-- every entry of the rendered sequence contributes its own rendering, as a contiguous piece of the output -/
theorem renderSeq_gplus_mem (c : RenderCfg) (l : List Entry) (st : WapState) (out : Str)
    (h : renderSeq c .gplusDir st l = some out) (e : Entry) (he : e ∈ l) :
    ∃ b pre post, gplusBlocks c.srv c.admin (e.mtime.bind c.modDate) e = some b ∧ out = pre ++ b ++ post := by
  induction l generalizing out with
  | nil => cases he
  | cons x xs ih =>
    unfold renderSeq at h
    dsimp only at h
    split at h
    · rename_i a r hx hr
      cases h
      rcases List.mem_cons.mp he with rfl | hin
      · exact ⟨a, [], r, hx, rfl⟩
      · obtain ⟨b, pre, post, hb, rfl⟩ := ih r hr hin
        exact ⟨b, a ++ pre, post, hb, by simp only [List.append_assoc]⟩
    · cases h

/-- **`$` on a directory carries every item's information**: with abstracts left to the protocols that show them
    (`abstract_headers` off, `abstract_entries = never`), the Gopher+ directory listing of any entry list contains, for
    each entry, exactly the blocks an `!` request for that entry is answered with (same `gplusBlocks`, with the
    modification date the directory view adds) -/
theorem dollar_listing_contains_item_info (c : RenderCfg) (hh : c.abstractHeaders = false)
    (ha : c.abstractEntries = lit "never") (self : Entry) (es : List Entry) (out : Str)
    (h : listingBody c .gplusDir true self es = some out) (e : Entry) (he : e ∈ es) :
    ∃ b pre post, gplusBlocks c.srv c.admin (e.mtime.bind c.modDate) e = some b ∧ out = pre ++ b ++ post := by
  have hd : doAbstracts (lit "never") (View.gplusDir.groksAbstract || true) = false := by
    rw [doAbstracts, lit_ofList, lit_ofList, lit_ofList]; rfl
  rw [listingBody, hh, ha, hd, if_pos rfl, Pyg.Props.C06.walk_without_abstracts] at h
  obtain ⟨b, pre, post, hb, ho⟩ := renderSeq_gplus_mem c _ _ out h (gplusFix e) (List.mem_map.mpr ⟨e, he, rfl⟩)
  obtain ⟨m, hm⟩ := gplusFix_frame e
  rw [gplusBlocks_fix, hm] at hb
  exact ⟨b, pre, post, hb, ho⟩

end Pyg.Props.C15
