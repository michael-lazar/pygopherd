import PygVerif.Generated
import PygVerif.Model.Umn
import PygVerif.Lemmas.Str
import PygVerif.Lemmas.LinkFile
import PygVerif.Lemmas.Collect
import PygVerif.Lemmas.EntryFrame
/-!
# C08 — UMN link files, .cap overrides and abstracts have their documented effect
-/
namespace Pyg.Props.C08
open Pyg

/-- class of an entry: 0 = positive number, 1 = unnumbered (or 0), 2 = negative -/
def cls (e : Entry) : Nat := if e.num.getD 0 > 0 then 0 else if e.num.getD 0 = 0 then 1 else 2

/-- `entrycmp a b ≤ 0` is exactly: lexicographic on (class, number within the class, title) -/
theorem entryLe_iff (a b : Entry) (na nb : Str) (ha : a.name = some na) (hb : b.name = some nb) :
    entryLe a b = true ↔
      (cls a < cls b ∨ (cls a = cls b ∧ (a.num.getD 0 < b.num.getD 0 ∨
        (a.num.getD 0 = b.num.getD 0 ∧ strLe na nb = true)))) := by
  unfold entryLe entrycmp
  simp only [ha, hb, decide_eq_true_eq]
  have hc := cmpStr_le na nb
  unfold cls cmpInt sgn
  grind

def Named (e : Entry) : Prop := ∃ n, e.name = some n

theorem entryLe_total (a b : Entry) (ha : Named a) (hb : Named b) : entryLe a b = true ∨ entryLe b a = true := by
  obtain ⟨na, ha⟩ := ha
  obtain ⟨nb, hb⟩ := hb
  rw [entryLe_iff a b na nb ha hb, entryLe_iff b a nb na hb ha]
  exact lex_total (Nat.lt_trichotomy _ _) (lex_total (Int.lt_trichotomy _ _) (strLe_total na nb))

theorem entryLe_trans (a b c : Entry) (ha : Named a) (hb : Named b) (hc : Named c)
    (h1 : entryLe a b = true) (h2 : entryLe b c = true) : entryLe a c = true := by
  obtain ⟨na, ha⟩ := ha
  obtain ⟨nb, hb⟩ := hb
  obtain ⟨nc, hc⟩ := hc
  rw [entryLe_iff a b na nb ha hb] at h1
  rw [entryLe_iff b c nb nc hb hc] at h2
  rw [entryLe_iff a c na nc ha hc]
  exact lex_trans Nat.lt_trans (lex_trans Int.lt_trans (strLe_trans na nb nc)) h1 h2

/-- the order relation the manual describes, on named entries -/
def Before (a b : Entry) : Prop :=
  cls a < cls b ∨ (cls a = cls b ∧ (a.num.getD 0 < b.num.getD 0 ∨
    (a.num.getD 0 = b.num.getD 0 ∧ ∃ na nb, a.name = some na ∧ b.name = some nb ∧ strLe na nb = true)))

/-- **Numbered entries first in numeric order, then unnumbered ones by title, then negative
    ones.** For every list of named entries the sorted listing is pairwise in that order.
    (The comparator is a total preorder on named entries only; `mergeSort` only ever compares
    members of the list.) -/
theorem order_blocks (l : List Entry) (hn : ∀ e ∈ l, Named e) :
    (l.mergeSort entryLe).Pairwise Before := by
  refine (pairwise_mergeSort_of_mem entryLe_trans entryLe_total l hn).imp_of_mem fun {a b} ha hb hab => ?_
  obtain ⟨na, hna⟩ := hn a (List.mem_mergeSort.mp ha)
  obtain ⟨nb, hnb⟩ := hn b (List.mem_mergeSort.mp hb)
  rcases (entryLe_iff a b na nb hna hnb).mp hab with h | ⟨h1, h2 | ⟨h2, h3⟩⟩
  · exact .inl h
  · exact .inr ⟨h1, .inl h2⟩
  · exact .inr ⟨h1, .inr ⟨h2, na, nb, hna, hnb, h3⟩⟩

theorem sort_is_permutation (l : List Entry) : (l.mergeSort entryLe).Perm l := List.mergeSort_perm l entryLe

/-- **Override only what is set.** Merging a link block into a file's entry replaces exactly
    the fields the block sets (the path always being set) and keeps the others: stated for MIME type,
    size, mtime, the Gopher+ flag and — for a block without an abstract, `hea` — the extended attributes. -/
theorem override_only_set (old new : Entry) (hea : new.ea = []) :
    let m := mergeEntries old new
    m.selector = new.selector ∧
    m.type = (if new.type.isSome then new.type else old.type) ∧
    m.name = (if new.name.isSome then new.name else old.name) ∧
    m.host = (if new.host.isSome then new.host else old.host) ∧
    m.port = (if new.port.isSome then new.port else old.port) ∧
    m.num = (if new.num.isSome then new.num else old.num) ∧
    m.mimetype = old.mimetype ∧ m.size = old.size ∧ m.mtime = old.mtime ∧ m.gplus = old.gplus ∧ m.ea = old.ea := by
  have orElse_eq : ∀ {α : Type} (a b : Option α), (a.orElse fun _ => b) = if a.isSome then a else b := by
    intro α a b; cases a <;> rfl
  simp only [mergeEntries, hea, List.foldl_nil, orElse_eq, and_self]

/-- a block that sets nothing but the path leaves the number alone (the F20 regression) -/
theorem number_survives_unrelated_override (old new : Entry) (hn : new.num = none) :
    (mergeEntries old new).num = old.num := by
  obtain ⟨ea', h⟩ := foldl_ea_frame _ (fun e kv => ⟨_, rfl⟩) new.ea _
  rw [mergeEntries, h, hn]; rfl

theorem fresh_link_unnumbered (d : Str) (cap : Option Str) : (freshLink d cap).le.e.num = none := by
  cases cap <;> rfl

/-- **A named block whose Path does not start with `./` adds a new entry** and leaves every
    directory entry as it was. -/
theorem adds_new (l : LinkEntry) (ls : List LinkEntry) (es : List (Nat × Str × Option Entry))
    (h : l.needsmerge = false) (nm : Str) (hn : l.e.name = some nm) :
    mergeLinks (l :: ls) es = mergeLinks ls (es ++ [(es.length, [], some l.e)]) := by
  simp [mergeLinks, h, hn]

/-- a block that names nothing adds nothing (any subset of the lines is a well-formed block: one
    without `Name=` cannot be listed, and the listing goes on without it) -/
theorem nameless_block_adds_nothing (l : LinkEntry) (ls : List LinkEntry) (es : List (Nat × Str × Option Entry))
    (h : l.needsmerge = false) (hn : l.e.name = none) :
    mergeLinks (l :: ls) es = mergeLinks ls es := by
  simp [mergeLinks, h, hn]

/-- **No arrangement of link blocks can fail the merge**: whatever the blocks say — two blocks
    hiding the same file, a block for a file that is already hidden, blocks for files that do
    not exist — merging them into the directory's entries yields a list. -/
theorem merge_total (ls : List LinkEntry) : ∀ es : List (Nat × Str × Option Entry), (mergeLinks ls es).isSome = true := by
  intro es
  fun_induction mergeLinks ls es
  case case1 => rfl
  all_goals assumption

theorem hides_of_type {l : LinkEntry} (hx : l.e.type = some (lit "X") ∨ l.e.type = some (lit "-")) : l.hides = true := by
  unfold LinkEntry.hides
  rcases hx with hx | hx <;> simp [hx]

/-- a hide block (`Type=X` or `Type=-`, `./` path) for a file that is not among the directory's
    entries changes nothing: the listing is the one without the block -/
theorem hide_absent_is_noop (l : LinkEntry) (ls : List LinkEntry) (es : List (Nat × Str × Option Entry))
    (hm : l.needsmerge = true) (hx : l.e.type = some (lit "X") ∨ l.e.type = some (lit "-"))
    (habs : es.reverse.find? (fun x => x.2.1 == l.e.selector && !x.2.1.isEmpty) = none) :
    mergeLinks (l :: ls) es = mergeLinks ls es := by
  simp [mergeLinks, hm, habs, hides_of_type hx]

/-- **`Type=X` or `Type=-` in a `./` block hides the file**: the entry with that selector is
    taken out, every other entry stays as it is -/
theorem block_hides (l : LinkEntry) (ls : List LinkEntry) (es : List (Nat × Str × Option Entry)) (i : Nat) (t : Str) (o : Option Entry)
    (hm : l.needsmerge = true) (hx : l.e.type = some (lit "X") ∨ l.e.type = some (lit "-"))
    (hf : es.reverse.find? (fun x => x.2.1 == l.e.selector && !x.2.1.isEmpty) = some (i, t, o)) :
    mergeLinks (l :: ls) es = mergeLinks ls (es.map fun x => if x.1 == i then (x.1, x.2.1, none) else x) := by
  simp [mergeLinks, hm, hf, hides_of_type hx]

/-- marking the entry with a given tag as hidden (the function `mergeLinks` maps over the list for a
    `Type=X` / `Type=-` block) a second time changes nothing -/
theorem hide_idempotent (i : Nat) (es : List (Nat × Str × Option Entry)) :
    let hide := fun (x : Nat × Str × Option Entry) => if x.1 == i then (x.1, x.2.1, (none : Option Entry)) else x
    (es.map hide).map hide = es.map hide := by
  intro hide
  rw [List.map_map]
  apply List.map_congr_left
  intro x _
  simp only [Function.comp, hide]
  by_cases h : (x.1 == i) = true <;> simp [h]

/-- `.cap` with `Type=X` or `Type=-` hides the file — under the hypothesis `hp` that the reader yields the same
    first entry `ci` whatever selector it starts from.  The documented hiding file, a `.cap` without a `Path=`
    line, does not meet it (its entry carries that selector); `cap_file_overrides_by_its_fields` states that case. -/
theorem cap_hides (c : DirCfg) (hu : c.umn = true) (d base : Str) (ch : Child) (e0 : Entry) (isf : Bool)
    (ls : List Str) (ci : LinkEntry) (rest : List LinkEntry)
    (he : ch.entry = some (e0, isf)) (hc : ch.cap = some ls)
    (hx : ci.e.type = some (lit "X") ∨ ci.e.type = some (lit "-"))
    (hp : ∀ sel, processLinkFile d base (some sel) (ls.length + 1) ls = some (ci :: rest)) :
    childEntry c d base ch = some none := by
  have hh := hides_of_type hx
  unfold LinkEntry.hides at hh
  simp only [childEntry, he, hu, Bool.not_true, Bool.false_eq_true, if_false, hc, hp, hh, if_true]

/-! ### the link-file reader on the manual's own examples (executable spot checks) -/

/-- the sample `.Links` entry of the manual: all five keys, `+` for host and port -/
example : processLinkFile (lit "/dir") (lit "/dir") none 10
    [lit "# a comment\n", lit "Name=Cheese Ball Recipes\n", lit "Numb=1\n", lit "Type=1\n", lit "Port=+\n",
     lit "Path=/Moo/Cheesy\n", lit "Host=+\n", lit "\n",
     lit "Name=relative one\n", lit "Path=sub/../x\n", lit "Type=0\n"] =
  some [{ e := { selector := lit "/Moo/Cheesy", name := some (lit "Cheese Ball Recipes"), num := some 1, type := some (lit "1") } },
        { e := { selector := lit "/dir/x", name := some (lit "relative one"), num := none, type := some (lit "0") },
          needsabspath := true }] := by
  repeat rw [lit_ofList]
  decide +kernel

/-- a `.names` block: `./` path merges, abstract continuation lines are joined -/
example : processLinkFile (lit "/dir") (lit "/dir") none 10
    [lit "Path=./file.txt\n", lit "Name=A better name\n", lit "Abstract=first \\\n", lit "  second\n", lit "Numb=-2\n"] =
  some [{ e := { selector := lit "/dir/file.txt", name := some (lit "A better name"), num := some (-2),
                 ea := [(lit "ABSTRACT", lit "first \nsecond")] }, needsmerge := true }] := by
  repeat rw [lit_ofList]
  decide +kernel

/-- two link blocks hiding the same file: the file is hidden, the other entries are listed
    (before repo commit 9bb6c87 the second block raised `ValueError` and the directory was not
    listed at all) -/
example :
    let hideA : LinkEntry := { e := { selector := lit "/d/a", type := some (lit "X"), num := none }, needsmerge := true }
    (mergeLinks [hideA, hideA] [(0, lit "/d/a", some { selector := lit "/d/a" }), (1, lit "/d/b", some { selector := lit "/d/b" })]).map
      (·.filterMap (·.2.2)) = some [{ selector := lit "/d/b" }] := by decide +kernel

/-- a `.cap` file: the path is the file's own selector -/
example : processLinkFile (lit "/dir") (lit "/dir") (some (lit "/dir/f")) 10 [lit "Name=Capped\n", lit "Type=X\n"] =
  some [{ e := { selector := lit "/dir/f", name := some (lit "Capped"), type := some (lit "X"), num := none } }] := by
  repeat rw [lit_ofList]
  decide +kernel

/-! ### the reader refines the documented file format (Lemmas/LinkFile)

A link file given as data — blocks of `Key=value` lines (`Umn.Field`), each block closed by a blank
line — and the reader run on its text. -/

open Pyg.Umn in
/-- `int(str(n)) == n`: numbers written in a `Port=` or `Numb=` line are read back as written -/
theorem number_lines_round_trip (n : Int) : parseInt? (toDecInt n) = some n := parseInt_toDecInt n

open Pyg.Umn in
/-- one well-formed line has exactly its own field's effect on the entry being built -/
theorem line_applies_its_field (base : Str) (fuel : Nat) (st : LinkState) (f : Field) (hf : f.Ok) (rest : List Str)
    (hc : ∀ v, f = .comment v → st.donePath = false) :
    getLinkItem base (fuel + 1) st ((f.text ++ [10]) :: rest) = getLinkItem base fuel (f.apply base st) rest :=
  getLinkItem_field base fuel st f hf rest hc

open Pyg.Umn in
/-- **the reader refines the block reading**: for every list of blocks of well-formed lines, reading
    the rendered file gives, in file order, the entry of each block that has a `Path=` — each block
    read from a fresh entry (no state crosses the blank line), with any fuel above the block count -/
theorem linkfile_reader_refines_blocks (dirSel base : Str) (bs : List (List Field))
    (hbs : ∀ b ∈ bs, ∀ f ∈ b, f.Ok) (hwp : ∀ b ∈ bs, WellPlaced false b) (fuel : Nat) (hfuel : bs.length < fuel) :
    processLinkFile dirSel base none fuel (renderFile bs) = some (bs.filterMap (blockEntry dirSel base none)) :=
  processLinkFile_blocks dirSel base bs hbs hwp fuel hfuel

open Pyg.Umn in
/-- the fuel the directory handler's model passes (`lines + 1`) is enough -/
theorem linkfile_reader_fuel_suffices (dirSel base : Str) (bs : List (List Field))
    (hbs : ∀ b ∈ bs, ∀ f ∈ b, f.Ok) (hwp : ∀ b ∈ bs, WellPlaced false b) :
    processLinkFile dirSel base none ((renderFile bs).length + 1) (renderFile bs) =
      some (bs.filterMap (blockEntry dirSel base none)) :=
  processLinkFile_blocks dirSel base bs hbs hwp _ (Nat.lt_succ_of_le (length_le_renderFile bs))

open Pyg.Umn in
/-- a `.cap` file is one block about its own file -/
theorem cap_file_is_one_block (dirSel base sel : Str) (fs : List Field) (hfs : ∀ f ∈ fs, f.Ok)
    (hw : WellPlaced true fs) (fuel : Nat) :
    processLinkFile dirSel base (some sel) (fuel + 1) (renderFields fs) =
      some ((blockEntry dirSel base (some sel) fs).toList) := by
  rw [processLinkFile]
  have hl : (renderFields fs).length + 1 = 0 + 1 + fs.length := by simp [renderFields]; omega
  rw [hl, getLinkItem_last_block base fs hfs _ _ (by simpa [freshLink] using hw)]
  simp only [blockEntry]
  cases finishEntry base (applyAll base (freshLink dirSel (some sel)) fs) <;> simp

open Pyg.Umn in
/-- a block without `Path=` in a `.Links` file yields nothing (one in a `.cap` file always yields its entry:
    `blockEntry_isSome`) -/
theorem block_needs_path (dirSel base : Str) (fs : List Field) (h : ∀ f ∈ fs, f.key ≠ 3) :
    blockEntry dirSel base none fs = none := by
  have hp : fs.any Field.isPath = false :=
    List.any_eq_false.mpr fun f hf hp => h f hf (by cases f <;> first | rfl | cases hp)
  simpa [hp] using blockEntry_isSome dirSel base none fs

open Pyg.Umn in
/-- inside a block the order of lines means nothing as long as no two different lines set the same
    key: every rearrangement of such a block gives the same entry -/
theorem field_order_irrelevant (dirSel base : Str) (cap : Option Str) (fs gs : List Field) (hp : fs.Perm gs)
    (hk : ∀ f ∈ fs, ∀ g ∈ fs, f ≠ g → f.key ≠ g.key ∨ f.key = 0 ∨ g.key = 0) :
    blockEntry dirSel base cap fs = blockEntry dirSel base cap gs := by
  unfold blockEntry applyAll
  congr 1
  apply List.Perm.foldl_eq' hp
  intro x hx y hy z
  by_cases hxy : x = y
  · subst hxy; rfl
  · rcases hk x hx y hy hxy with h | h | h
    · exact apply_comm base z x y (Or.inl h)
    · exact apply_comm base z x y (Or.inr h)
    · exact (apply_comm base z y x (Or.inr h)).symm

open Pyg.Umn in
/-- of two lines with the same key (other than `Path=`, which also raises flags, and `Abstract=`, whose empty value
    sets nothing) the later one counts -/
theorem later_line_wins (base : Str) (st : LinkState) (f g : Field) (h : f.key = g.key) (h0 : f.key ≠ 0)
    (hp : f.key ≠ 3) (ha : f.key ≠ 7) : g.apply base (f.apply base st) = g.apply base st := by
  cases f <;> first | exact absurd rfl h0 | exact absurd rfl hp | exact absurd rfl ha | skip
  all_goals cases g <;> first | exact absurd h (Nat.ne_of_beq_eq_false rfl) | rfl

open Pyg.Umn in
/-- through the directory handler: a dot file of a UMN directory that passes the ignore pattern contributes exactly the
    entries of its blocks, in file order -/
theorem link_file_member_contributes_its_blocks (c : DirCfg) (hu : c.umn = true) (dirSel base : Str) (ch : Child)
    (hdot : ch.name.head? = some 46) (hnd : ch.isDir = false) (hig : reSearch c.ignore (base ++ [47] ++ ch.name) = false)
    (bs : List (List Field)) (hbs : ∀ b ∈ bs, ∀ f ∈ b, f.Ok) (hwp : ∀ b ∈ bs, WellPlaced false b)
    (hl : ch.lines = some (renderFile bs)) :
    linksOf c dirSel base ch = some (bs.filterMap (blockEntry dirSel base none)) := by
  unfold linksOf
  simp only [hu, hig, hdot, hnd, hl, Bool.not_false, Bool.and_self, decide_true, if_true]
  exact linkfile_reader_fuel_suffices dirSel base bs hbs hwp

open Pyg.Umn in
/-- through the directory handler (extension stripping off): a `.cap` file of well-formed lines overrides exactly the
    fields its lines set (`mergeEntries` with the block's entry), or hides the file when it says `Type=X` / `Type=-` -/
theorem cap_file_overrides_by_its_fields (c : DirCfg) (hu : c.umn = true) (hx : c.extstrip = lit "none") (dirSel base : Str)
    (ch : Child) (e0 : Entry) (isf : Bool) (he : ch.entry = some (e0, isf))
    (fs : List Field) (hfs : ∀ f ∈ fs, f.Ok) (hw : WellPlaced true fs) (hc : ch.cap = some (renderFields fs)) :
    ∃ ci, blockEntry dirSel base (some e0.selector) fs = some ci ∧
      childEntry c dirSel base ch =
        (if ci.e.type == some (lit "X") || ci.e.type == some (lit "-") then some none
         else some (some (mergeEntries e0 ci.e))) := by
  obtain ⟨ci, hci⟩ := Option.isSome_iff_exists.mp (blockEntry_isSome dirSel base (some e0.selector) fs)
  refine ⟨ci, hci, ?_⟩
  unfold childEntry
  have hp := cap_file_is_one_block dirSel base e0.selector fs hfs hw (renderFields fs).length
  simp only [he, hu, hx, hc, Bool.not_true, Bool.false_eq_true, if_false, bne_self_eq_false, Bool.false_and, hp, hci,
    Option.toList_some]

open Pyg.Umn in
/-- the manual's sample entry is such a file (the hypotheses are met and the text is the manual's) -/
example :
    let b1 : List Field := [.comment (lit " a comment"), .name (lit "Cheese Ball Recipes"), .numb 1, .type 49, .portPlus,
                            .path (lit "/Moo/Cheesy"), .hostPlus]
    let b2 : List Field := [.name (lit "relative one"), .path (lit "sub/../x"), .type 48, .abstract (lit "About x")]
    renderFile [b1, b2] =
      [lit "# a comment\n", lit "Name=Cheese Ball Recipes\n", lit "Numb=1\n", lit "Type=1\n", lit "Port=+\n", lit "Path=/Moo/Cheesy\n",
       lit "Host=+\n", lit "\n", lit "Name=relative one\n", lit "Path=sub/../x\n", lit "Type=0\n", lit "Abstract=About x\n", lit "\n"] ∧
    WellPlaced false b1 ∧ WellPlaced false b2 ∧
    [b1, b2].filterMap (blockEntry (lit "/dir") (lit "/dir") none) =
      [{ e := { selector := lit "/Moo/Cheesy", name := some (lit "Cheese Ball Recipes"), num := some 1, type := some (lit "1") } },
       { e := { selector := lit "/dir/x", name := some (lit "relative one"), num := none, type := some (lit "0"),
                ea := [(lit "ABSTRACT", lit "About x")] },
         needsabspath := true }] := by
  repeat rw [lit_ofList]
  refine ⟨by decide +kernel, by simp [WellPlaced], by simp [WellPlaced], by decide +kernel⟩

end Pyg.Props.C08
