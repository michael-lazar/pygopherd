import PygVerif.Props.C07
import PygVerif.Props.C01
import PygVerif.Model.Site
import PygVerif.Lemmas.SiteServe
import PygVerif.Lemmas.Collect
/-!
# C12 — One unservable entry never takes down its directory

In `Model/Umn` an unservable member (dangling symbolic link, socket or FIFO, a member deleted
between enumeration and inspection, a name the selector filter rejects) is a `Child` whose
`entry` is `none` (no handler, or an I/O error while building its entry) and whose contents
cannot be read.
-/
namespace Pyg.Props.C12
open Pyg Pyg.Props.C07

def Unservable (f : Child) : Prop := f.entry = none ∧ f.lines = none

theorem unservable_no_links (c : DirCfg) (d base : Str) (f : Child) (hf : Unservable f) :
    linksOf c d base f = some [] := by
  unfold linksOf; rw [hf.2]; split <;> rfl

theorem unservable_no_entry (c : DirCfg) (d base : Str) (f : Child) (hf : Unservable f) :
    childEntry c d base f = some none := by
  simp [childEntry, hf.1]

/-- **Only the faulty entry is omitted.** Adding an unservable member to a directory changes
    nothing in its listing: the listing still succeeds when it did, with exactly the same
    entries in the same order — for the plain and for the UMN handler. -/
theorem faulty_member_is_transparent (c : DirCfg) (d : Str) (f : Child) (kids : List Child)
    (hf : Unservable f) : dirListing c d (f :: kids) = dirListing c d kids := by
  obtain ⟨l₁, l₂, h1, h2, _⟩ := List.mergeSort_cons (le := childLe) childLe_trans childLe_total f kids
  rw [dirListing_eq_listWalk, dirListing_eq_listWalk]
  exact (congrArg _ h1).trans <|
    (listWalk_skip (unservable_no_links c d _ f hf) (unservable_no_entry c d _ f hf) l₁ l₂).trans (congrArg _ h2.symm)

/-- any number of unservable members ahead of the others -/
theorem faulty_members_are_transparent (c : DirCfg) (d : Str) (faulty kids : List Child)
    (hf : ∀ f ∈ faulty, Unservable f) : dirListing c d (faulty ++ kids) = dirListing c d kids := by
  induction faulty with
  | nil => rfl
  | cons f r ih =>
    exact (faulty_member_is_transparent c d f (r ++ kids) (hf f (by simp))).trans (ih fun x hx => hf x (by simp [hx]))

/-- one unservable member anywhere in the enumeration, if names identify members -/
theorem fault_position_irrelevant (c : DirCfg) (d : Str) (f : Child) (a b : List Child) (hf : Unservable f)
    (hname : ∀ x ∈ a ++ f :: b, ∀ y ∈ a ++ f :: b, x.name = y.name → x = y) :
    dirListing c d (a ++ f :: b) = dirListing c d (a ++ b) := by
  rw [listing_perm_invariant c d (a ++ f :: b) (f :: (a ++ b)) (List.perm_middle) hname]
  exact faulty_member_is_transparent c d f (a ++ b) hf

/-- **A name the security filter rejects is such a fault**: a member whose name contains `..`
    (or `./`, `//`, `.\`, `\\`, NUL) gives an insecure child selector, whatever the
    directory (so no handler but the URL handler can accept it: `dispatch_notFound_of_fault`). -/
theorem insecure_name_is_fault (base name bad : Str) (hb : bad ∈ Generated.forbidden) (hin : bad <:+: name) :
    C01.secure (base ++ [47] ++ name) = false :=
  Bool.eq_false_iff.mpr fun h => secure_no_infix h hb (hin.trans (List.suffix_append (base ++ [47]) name).isInfix)

example : Unservable { name := lit "dangling", isDir := false, entry := none, stripped := lit "dangling",
                       cap := none, lines := none } := ⟨rfl, rfl⟩

/-! ### the same in the whole-site model (Model/Site): from the file tree to the listing -/

theorem dispatch_notFound_of_fault (c : SiteCfg) (hurl : c.url = false) (st : StatFn) (sel : Str)
    (hfault : (match st sel with | some (.file _) => false | some (.dir _) => false | _ => true) = true
              ∨ secureB c.forbidden sel = false) :
    dispatch c st sel = .notFound := by
  have hs := dispatch_stat c st sel
  cases hd : dispatch c st sel <;> rw [hd] at hs    -- (`rw` closes the case `.notFound` itself)
  case url => simp [hurl] at hs
  -- every other handler has seen a secure selector and a file or a directory
  all_goals
    obtain ⟨hsec, x, hx⟩ := hs
    simp [hsec, hx] at hfault

/-- **In the site model (URL handler off) the fault kinds are unservable members.**  A member that is not there for
    `stat` (a dangling link, an entry deleted after enumeration) or is neither file nor directory (a socket, a FIFO),
    or whose selector the filter rejects, gets no entry; and unless it is a regular file its contents are never read. -/
theorem site_fault_is_unservable (c : SiteCfg) (hurl : c.url = false) (st : StatFn) (base name : Str) (k : Node)
    (hk : ∀ d, k ≠ .file d)
    (hfault : (match st (base ++ [47] ++ name) with | some (.file _) => false | some (.dir _) => false | _ => true) = true
              ∨ secureB c.forbidden (base ++ [47] ++ name) = false) :
    Unservable (childOf c st base name k) := by
  have hd := dispatch_notFound_of_fault c hurl st (base ++ [47] ++ name) hfault
  refine ⟨by simp only [childOf, hd], ?_⟩
  cases k with
  | file d => exact absurd rfl (hk d)
  | dir _ => rfl
  | other => rfl

theorem childOf_names_identify (c : SiteCfg) (st : StatFn) (base : Str) (kids : List (Str × Node))
    (h : ∀ x ∈ kids, ∀ y ∈ kids, x.1 = y.1 → x = y) :
    ∀ x ∈ kids.map (fun (m, j) => childOf c st base m j), ∀ y ∈ kids.map (fun (m, j) => childOf c st base m j),
      x.name = y.name → x = y := by
  intro x hx y hy hxy
  obtain ⟨p, hp, rfl⟩ := List.mem_map.mp hx
  obtain ⟨q, hq, rfl⟩ := List.mem_map.mp hy
  rw [h p hp q hq hxy]

/-- **One such member, anywhere in the directory, changes nothing in its listing** (site model, both handlers, URL
    handler off; `hk`: the member is not a regular file in the tree, whose lines a dot-file reader could read): the
    listing of a directory that holds it is the listing computed from the other members alone. -/
theorem site_listing_without_faulty_member (c : SiteCfg) (hurl : c.url = false) (st : StatFn) (sel : Str)
    (a b : List (Str × Node)) (n : Str) (k : Node) (hd : dispatch c st sel = .dir)
    (hkids : kidsAt st sel = some (a ++ (n, k) :: b))
    (hnames : ∀ x ∈ a ++ (n, k) :: b, ∀ y ∈ a ++ (n, k) :: b, x.1 = y.1 → x = y)
    (hk : ∀ d, k ≠ .file d)
    (hfault : (match st ((if sel = [47] then [] else sel) ++ [47] ++ n) with
               | some (.file _) => false | some (.dir _) => false | _ => true) = true
              ∨ secureB c.forbidden ((if sel = [47] then [] else sel) ++ [47] ++ n) = false) :
    siteEntries c st sel =
      dirListing c.dir sel ((a ++ b).map fun (m, j) => childOf c st (if sel = [47] then [] else sel) m j) := by
  have hn := childOf_names_identify c st (if sel = [47] then [] else sel) _ hnames
  rw [List.map_append] at hn
  rw [siteEntries_dir hd, hkids, Option.bind_some, List.map_append, List.map_append]
  exact fault_position_irrelevant _ _ _ _ _ (site_fault_is_unservable c hurl st _ n k hk hfault) hn

end Pyg.Props.C12
