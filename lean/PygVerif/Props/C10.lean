import PygVerif.Generated
import PygVerif.Model.Cache
import PygVerif.Model.Site
/-!
# C10 — The directory cache is transparent and never older than its lifetime
-/
namespace Pyg.Props.C10
open Pyg.Cache

variable {D L : Type} (listingOf : D → L) (T : Nat)

/-- the invariant: the cache file holds the listing of the directory as it was when the file
    was written, stamped with that time in whole seconds, and that state really occurred -/
def Inv (s : St D L) : Prop :=
  (∀ l m, s.cache = some (l, m) → ∃ t d, s.birth = some (t, d) ∧ l = listingOf d ∧ m = t / 1000 ∧ t ≤ s.now) ∧
  (∀ t d, s.birth = some (t, d) → (t, d) ∈ s.trail) ∧
  (s.now, s.dir) ∈ s.trail ∧ (∀ p ∈ s.trail, p.1 ≤ s.now)

theorem inv_init (d : D) : Inv listingOf (init d : St D L) := by
  refine ⟨?_, ?_, ?_, ?_⟩ <;> simp [init]

/-- the directory changes or time passes: the trail gains the new moment, the cache file is as it was -/
theorem Inv.advance {s : St D L} (h : Inv listingOf s) (d : D) (n : Nat) (hn : s.now ≤ n) :
    Inv listingOf { s with dir := d, now := n, trail := (n, d) :: s.trail } := by
  obtain ⟨h1, h2, _, h4⟩ := h
  refine ⟨fun l m hc => ?_, fun t d' hb => List.mem_cons_of_mem _ (h2 t d' hb), List.mem_cons_self,
    List.forall_mem_cons.mpr ⟨Nat.le_refl n, fun p hp => Nat.le_trans (h4 p hp) hn⟩⟩
  obtain ⟨t, d', hb, hl, hm, ht⟩ := h1 l m hc
  exact ⟨t, d', hb, hl, hm, Nat.le_trans ht hn⟩

theorem inv_step (s : St D L) (op : Op D) (h : Inv listingOf s) : Inv listingOf (step listingOf T s op).1 := by
  have miss : Inv listingOf { s with cache := some (listingOf s.dir, s.now / 1000), birth := some (s.now, s.dir) } :=
    ⟨fun l m hc => by cases hc; exact ⟨s.now, s.dir, rfl, rfl, rfl, Nat.le_refl _⟩,
     fun t d hb => by cases hb; exact h.2.2.1, h.2.2.1, h.2.2.2⟩
  fun_cases step listingOf T s op
  case case1 => exact h.advance listingOf _ s.now (Nat.le_refl _)              -- mutate
  case case2 => exact h.advance listingOf s.dir _ (Nat.le_add_right _ _)       -- tick
  case case3 => exact h                                                        -- hit
  all_goals exact miss                                                         -- expired entry, no cache file

/-- **Every reachable state satisfies the invariant** (induction over the history). -/
theorem inv_reachable (d : D) (ops : List (Op D)) :
    Inv listingOf (ops.foldl (fun s op => (step listingOf T s op).1) (init d : St D L)) :=
  List.foldlRecOn ops _ (inv_init listingOf d) fun s hs op _ => inv_step listingOf T s op hs

/-- **What a listing request is answered with**, in any state the invariant holds of: the listing of a directory state
    that really occurred, the present one or one less than a lifetime old (a cache file's age is counted from the whole
    second it was stamped with, which is not after the moment it was written).  The results below that speak of the
    answer are read off this one case analysis of the request. -/
theorem Inv.served {s : St D L} (h : Inv listingOf s) :
    ∃ t d, (t, d) ∈ s.trail ∧ (step listingOf T s .list).2 = some (listingOf d) ∧ t ≤ s.now ∧
      (t = s.now ∧ d = s.dir ∨ s.now < t + 1000 * T) := by
  rcases hc : s.cache with _ | ⟨l, m⟩
  · exact ⟨s.now, s.dir, h.2.2.1, by simp [step, hc], Nat.le_refl _, .inl ⟨rfl, rfl⟩⟩
  by_cases hf : fresh T s.now m = true
  · obtain ⟨t, d, hb, hl, rfl, ht⟩ := h.1 l m hc
    refine ⟨t, d, h.2.1 t d hb, by simp [step, hc, hf, hl], ht, .inr ?_⟩
    simp only [fresh, decide_eq_true_eq] at hf
    omega
  · exact ⟨s.now, s.dir, h.2.2.1, by simp [step, hc, hf], Nat.le_refl _, .inl ⟨rfl, rfl⟩⟩

/-- **A hit serves the listing generated when the entry was written**, and does not touch the
    cache file (no refresh of its age). -/
theorem hit_is_birth_listing (s : St D L) (l : L) (m : Nat) (hc : s.cache = some (l, m))
    (hf : fresh T s.now m = true) (h : Inv listingOf s) :
    step listingOf T s .list = (s, some l) ∧
    ∃ t d, (t, d) ∈ s.trail ∧ l = listingOf d ∧ t ≤ s.now ∧ s.now < t + 1000 * T + 1000 := by
  have hs : step listingOf T s .list = (s, some l) := by simp [step, hc, hf]
  obtain ⟨t, d, h1, h2, h3, h4⟩ := h.served listingOf T
  rw [hs] at h2
  exact ⟨hs, t, d, h1, Option.some.inj h2, h3, by omega⟩

/-- **Never older than the lifetime.** Whatever the history, the listing a client receives is
    the listing of the directory as it really was at some moment `t` with `now − t < lifetime`
    (in ms: `now < t + 1000·T`), or of the directory as it is now. -/
theorem staleness_bound (s : St D L) (h : Inv listingOf s) (s' : St D L) (o : L)
    (hs : step listingOf T s .list = (s', some o)) :
    ∃ t d, (t, d) ∈ s.trail ∧ o = listingOf d ∧ t ≤ s.now ∧ (t = s.now ∨ s.now < t + 1000 * T) := by
  obtain ⟨t, d, h1, h2, h3, h4⟩ := h.served listingOf T
  rw [hs] at h2
  exact ⟨t, d, h1, Option.some.inj h2, h3, h4.imp_left And.left⟩

/-- **An entry older than the lifetime is never used.** -/
theorem expired_never_used (s : St D L) (l : L) (m : Nat) (hc : s.cache = some (l, m))
    (hexp : (m + T) * 1000 ≤ s.now) :
    (step listingOf T s .list).2 = some (listingOf s.dir) := by
  have : fresh T s.now m = false := by simp [fresh]; omega
  simp [step, hc, this]

/-- **Lifetime 0: every listing reflects the current directory.** -/
theorem lifetime_zero_current (s : St D L) (h : Inv listingOf s) :
    (step listingOf 0 s .list).2 = some (listingOf s.dir) := by
  -- nothing is less than a lifetime old
  obtain ⟨t, d, -, h2, h3, ⟨-, rfl⟩ | h4⟩ := h.served listingOf 0
  · exact h2
  · omega

/-- **Protocol-free.** What is stored and what is served from the cache is the entry list `L`
    itself, and `step` has no protocol parameter: that is read off the model's types.  The statement
    adds only that two renderers applied to a hit's answer are applied to the stored `l`; it uses
    nothing else about the cache and would hold of any function with that answer. -/
theorem cache_protocol_free (render₁ render₂ : L → List Nat) (s : St D L) (l : L) (m : Nat)
    (hc : s.cache = some (l, m)) (hf : fresh T s.now m = true) :
    (step listingOf T s .list).2.map render₁ = some (render₁ l) ∧
    (step listingOf T s .list).2.map render₂ = some (render₂ l) := by
  simp [step, hc, hf]

/-- the shipped lifetime, as extracted from conf/pygopherd.conf -/
theorem shipped_lifetime : Generated.cacheTime = 180 := by decide

/-! ### the cache machine over whole file trees (`Model/Site`)

The theorems above are generic in what a "directory" and a "listing" are.  Here the directory
state is the whole file tree below the root and the listing is what the site model computes for
a selector (directory walk, link files, `.cap`, sidecars, gophermap population): a mutation is
*any* replacement of the tree. -/

/-- **Never older than the lifetime, on real trees.**  For every configuration, selector,
    lifetime and history of tree mutations, clock ticks and listing requests starting from any
    tree: a listing the client receives is `siteEntries` of the file tree as it really was at some
    moment less than a lifetime ago, or as it is now. -/
theorem site_listing_staleness_bound (c : SiteCfg) (sel : Str) (T : Nat) (R0 : Node) (ops : List (Op Node))
    (o : Option (List Entry)) (s' : St Node (Option (List Entry))) :
    let listingOf : Node → Option (List Entry) := fun R => siteEntries c (statAt R) sel
    let s := ops.foldl (fun s op => (step listingOf T s op).1) (init R0 : St Node (Option (List Entry)))
    step listingOf T s .list = (s', some o) →
    ∃ t R, (t, R) ∈ s.trail ∧ o = siteEntries c (statAt R) sel ∧ t ≤ s.now ∧ (t = s.now ∨ s.now < t + 1000 * T) := by
  intro listingOf s hs
  exact staleness_bound listingOf T s (inv_reachable listingOf T R0 ops) s' o hs

/-- with lifetime 0 every listing is `siteEntries` of the tree as it is now -/
theorem site_listing_current_at_lifetime_zero (c : SiteCfg) (sel : Str) (R0 : Node) (ops : List (Op Node)) :
    let listingOf : Node → Option (List Entry) := fun R => siteEntries c (statAt R) sel
    let s := ops.foldl (fun s op => (step listingOf 0 s op).1) (init R0 : St Node (Option (List Entry)))
    (step listingOf 0 s .list).2 = some (siteEntries c (statAt s.dir) sel) := by
  intro listingOf s
  exact lifetime_zero_current listingOf s (inv_reachable listingOf 0 R0 ops)

/-! write at 0.5 s, hit at 179.9 s (lifetime 180 s), miss at 180.0 s -/
example :
    let s0 : St Nat Nat := init 7
    let (s1, _) := step id 180 s0 (.tick 500)
    let (s2, o2) := step id 180 s1 .list
    let (s3, _) := step id 180 s2 (.mutate 8)
    let (s4, _) := step id 180 s3 (.tick 179400)
    let (s5, o5) := step id 180 s4 .list
    let (s6, _) := step id 180 s5 (.tick 100)
    let (_, o7) := step id 180 s6 .list
    (o2, o5, o7) = (some 7, some 7, some 8) := by decide

end Pyg.Props.C10
