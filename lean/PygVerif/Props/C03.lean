import PygVerif.Generated
import PygVerif.Model.Frame
import PygVerif.Model.Serve
import PygVerif.Props.C10
import PygVerif.Props.C02
import PygVerif.Lemmas.Log
import PygVerif.Lemmas.Str
import PygVerif.Lemmas.Frame
/-!
# C03 — Every request is answered with one well-formed response, whatever came before

`parseRequest` and `respond` are total functions: for every request line, TLS flag and handler
outcome there is exactly one response (by type).  The theorems below say that this one
response is syntactically valid for its protocol, that error statuses carry no body, and
that the answer to a listing does not depend on earlier read-only requests (through C10's
cache invariant).
-/
namespace Pyg.Props.C03
open Pyg

/-- **Error statuses carry no body** (the ones the server sends: Gemini `51` and `59`, Spartan `4` and `5`):
    the response is the status line and nothing else, for every message. -/
theorem error_no_body (admin : Str) (head : Bool) (m : Str) :
    (splitCrlf (respond .gemini admin head (.notFound m))).2 = [] ∧
    (splitCrlf (respond .gemini admin head (.ioError m))).2 = [] ∧
    (splitCrlf (respond .spartan admin head (.notFound m))).2 = [] ∧
    (splitCrlf (respond .spartan admin head (.ioError m))).2 = [] ∧
    (splitCrlf geminiBadRequest).2 = [] := by
  have h (code mt : Str) (hc : 13 ∉ code) : (splitCrlf (statusLine code mt)).2 = [] := by
    rw [← List.append_nil (statusLine _ _), splitCrlf_statusLine code mt hc]
  exact ⟨h _ m (by decide), h _ m (by decide), h _ m (by decide), h _ m (by decide), h _ _ (by decide)⟩

/-- and the status line starts with the right class digit -/
theorem error_status_codes (admin : Str) (head : Bool) (m : Str) :
    (respond .gemini admin head (.notFound m)).take 3 = lit "51 " ∧
    (respond .spartan admin head (.notFound m)).take 2 = lit "4 " ∧
    (respond .spartan admin head (.ioError m)).take 2 = lit "5 " := by
  simp only [respond, statusLine]
  repeat rw [lit_ofList]
  exact ⟨rfl, rfl, rfl⟩

/-- **Gopher+**: an error response starts with `--2` on its own line (`+-2` for listings and `!`:
    `gplus_listing_marker`; `+<length>` or `+-2` for documents: `C04.gplus_length`, `C04.gplus_unknown`).
    The hypothesis `hne` holds of every `o` (its second disjunct is `True`) and is not used. -/
theorem gplus_frame_wf (admin : Str) (head : Bool) (o : HOutcome) (hne : ∀ b, o ≠ .info b ∨ True) :
    (∃ m, o = .notFound m ∨ o = .ioError m) → (splitCrlf (respond .gopherp admin head o)).1 = lit "--2" := by
  rintro ⟨m, rfl | rfl⟩ <;> (simp only [respond]; rw [lit_ofList, lit_ofList]; rfl)

theorem gplus_listing_marker (admin : Str) (head : Bool) (s r f : Bytes) :
    (splitCrlf (respond .gopherp admin head (.listing s r f))).1 = lit "+-2" ∧
    (splitCrlf (respond .gopherp admin head (.info r))).1 = lit "+-2" := by
  simp only [respond]; rw [lit_ofList, lit_ofList]; exact ⟨rfl, rfl⟩

/-- **HTTP**: every response — success, not-found, I/O error — begins with `HTTP/1.0 ` and contains an
    empty line (where the header block ends: `httpHeaders_suffix`; the statement does not say it is the first). -/
theorem http_frame_wf (admin : Str) (head : Bool) (o : HOutcome) (hinfo : ∀ b, o ≠ .info b) :
    lit "HTTP/1.0 " <+: respond .http admin head o ∧ [13, 10, 13, 10] <:+: respond .http admin head o := by
  have err (rest : Bytes) := framed_append (p := lit "HTTP/1.0 ") (s := [13, 10, 13, 10])
    (a := lit "HTTP/1.0 404 Not Found\r\nContent-Type: text/html\r\n\r\n")
    (by rw [lit_ofList, lit_ofList]; decide +kernel) (by rw [lit_ofList]; decide +kernel) rest
  have ok (m lm ct body) : lit "HTTP/1.0 " <+: httpResp m lm ct body ∧ [13, 10, 13, 10] <:+: httpResp m lm ct body :=
    framed_append (httpHeaders_prefix lm ct) (httpHeaders_suffix lm ct) _
  cases o with
  | notFound m | ioError m => exact err _
  | listing s r f | document ct sz lm b => exact ok ..
  | info b => exact absurd rfl (hinfo b)

/-- HTTP HEAD carries no body (`C04.head_is_get_headers`, said of `respond`) -/
theorem head_no_body (admin : Str) (ct : Str) (sz : Option Nat) (lm : Option Str) (b : Bytes) :
    respond .http admin true (.document ct sz lm b) = httpHeaders lm ct :=
  List.append_nil _

/-- **Gopher**: the not-found answer is a type-3 line ending in CRLF, its message with TAB, CR and LF blanked
    (`menuField`; that this leaves one line is `menuField_clean`, Lemmas/Str).  The statement is the model's clause read
    back (`rfl`). -/
theorem gopher_error_line (admin : Str) (head : Bool) (m : Str) :
    respond .gopher admin head (.notFound m) = [51] ++ menuField m ++ lit "\t\terror.host\t1\r\n" := rfl

/-- request parsing is total.  `∃ r, f x = r` holds of every function (`⟨_, rfl⟩`): that `parseRequest` has a
    value on every protocol, TLS flag, first line and continuation is what Lean's accepting its definition
    means, and this statement records that and proves nothing more; that no exception leaves the real parser
    is outside what a theorem about the model can say. -/
theorem parse_total (w q : Str) (nv : Bool) (p : Proto) (c : Conn) : ∃ r, parseRequest w q nv p c = r := ⟨_, rfl⟩

/-- **A selector nothing serves gets each protocol's own not-found answer, and nothing else.**
    Gopher: one type-3 line; Gopher+: `--2` and two lines; Gemini `51`, Spartan `4` status line
    with no body.  (HTTP and WAP are not in the statement.) -/
theorem not_found_end_to_end (c : ServeCfg) (st : StatFn) (rq : Parsed) (m : Str) (g : Str)
    (hh : handled c st rq.selector = .notFound m) (hi : rq.geminiInput = none) (hb : rq.badRequest = false)
    (hg : rq.gplus = some g) :
    respondParsed c st .gopher rq = some [.text ([51] ++ menuField m ++ lit "\t\terror.host\t1\r\n")] ∧
    respondParsed c st .gopherp rq = some [.text (lit "--2\r\n1 " ++ c.render.admin ++ [13, 10] ++ m ++ [13, 10])] ∧
    respondParsed c st .gemini rq = some [.text (statusLine (lit "51") m)] ∧
    respondParsed c st .spartan rq = some [.text (statusLine (lit "4") m)] := by
  refine ⟨by simp [respondParsed, hh, hi, hb, Wire.ofProto], ?_, by simp [respondParsed, hh, hi, hb, Wire.ofProto],
    by simp [respondParsed, hh, hi, hb, Wire.ofProto]⟩
  by_cases hx : (g == lit "!") = true <;> simp [respondParsed, hh, hi, hb, Wire.ofProto, hg, hx]

/-- what Gemini and Spartan make of a handler's outcome: status `nf` for not-found, `ok` otherwise -/
theorem status_of_handled {C : Str → Prop} {nf ok : Str} (hnf : C nf) (hok : C ok) {footer : Option Str}
    {lb : Entry → List Entry → Option Str} {hd : Handled} {ps : List Piece}
    (h : (match hd with
      | .notFound m => some [Piece.text (statusLine nf m)]
      | .menu self es => (lb self es).map fun r => [.text (statusLine ok (lit "text/gemini") ++ r ++ footerText footer)]
      | .document e d => some [.text (statusLine ok (geminiAdjust e.mimetype)), .bytes d]
      | .page e t => some [.text (statusLine ok (geminiAdjust e.mimetype) ++ t)]
      | .crash => none) = some ps) :
    ∃ code mt tail rest, ps = .text (statusLine code mt ++ tail) :: rest ∧ C code := by
  cases hd with
  | notFound m => cases h; exact ⟨nf, m, [], [], by rw [List.append_nil], hnf⟩
  | crash => cases h
  | document e d => cases h; exact ⟨ok, _, [], _, by rw [List.append_nil], hok⟩
  | page e t => cases h; exact ⟨ok, _, t, [], rfl, hok⟩
  | menu self es =>
    obtain ⟨r, -, rfl⟩ := Option.map_eq_some_iff.mp h
    exact ⟨ok, _, r ++ footerText footer, [], by rw [List.append_assoc], hok⟩

/-- **Every Gemini and Spartan answer starts with one status line** (and the line is a single
    line whatever the selector contained: `splitCrlf_statusLine`): not-found, documents, menus,
    Gemini's refusal of a URL it cannot parse (`59`), its input prompt (`10`) and redirect (`30`). -/
theorem status_line_first (c : ServeCfg) (st : StatFn) (rq : Parsed) (ps : List Piece) (p : Proto)
    (hp : p = .gemini ∨ p = .spartan) (h : respondParsed c st p rq = some ps) :
    ∃ code mt tail rest, ps = .text (statusLine code mt ++ tail) :: rest ∧
      (code = lit "51" ∨ code = lit "20" ∨ code = lit "4" ∨ code = lit "2" ∨ code = lit "59" ∨ code = lit "10" ∨ code = lit "30") := by
  have line (code mt : Str) : [Piece.text (statusLine code mt)] = .text (statusLine code mt ++ []) :: [] := by
    rw [List.append_nil]
  unfold respondParsed at h
  -- Gemini's own answers are bare status lines, and Spartan has none
  by_cases hb : rq.badRequest = true
  · rw [if_pos hb] at h
    split at h <;> cases h
    exact ⟨_, _, _, _, line .., by simp⟩
  by_cases hi : rq.geminiInput.isSome = true
  · rw [if_neg hb, if_pos hi] at h
    split at h
    · split at h <;> cases h <;> exact ⟨_, _, _, _, line .., by simp⟩
    · cases h; exact ⟨_, _, _, _, line .., by simp⟩
    · cases h
  -- otherwise the handler's outcome, under the protocol's two codes: what is left of `h` is, up to `Wire.ofProto`,
  -- the `match` that `status_of_handled` takes as its hypothesis
  rw [if_neg hb, if_neg hi] at h
  rcases hp with rfl | rfl
  · exact status_of_handled (.inl rfl) (.inr (.inl rfl)) h
  · exact status_of_handled (.inr (.inr (.inl rfl))) (.inr (.inr (.inr (.inl rfl)))) h

/-- the input prompt of the query prefix: no query yet, Gemini asks for one; with a query it redirects to the
    selector behind the prefix, query attached as written -/
theorem gemini_input_prompt (c : ServeCfg) (st : StatFn) (rq : Parsed) (rest q : Str)
    (hb : rq.badRequest = false) (hi : rq.geminiInput = some rest) (hs : rq.search = some q) :
    respondParsed c st .gemini rq =
      some [.text (if q.isEmpty then statusLine (lit "10") (lit "Enter input") else statusLine (lit "30") (rest ++ [63] ++ q))] := by
  unfold respondParsed
  simp only [hb, Bool.false_eq_true, if_false, hi, Option.isSome_some, if_true, Wire.ofProto, hs]
  by_cases hq : q.isEmpty = true <;> simp [hq]

/-- one response for every outcome.  Existence and uniqueness of the value of `respond …` hold of any
    function (`⟨_, rfl, fun _ h => h.symm⟩`): that every outcome is framed into exactly one byte string is the
    type of `respond`, a modelling decision this statement records and does not prove. -/
theorem one_response (w : Wire) (admin : Str) (head : Bool) (o : HOutcome) :
    ∃ r, respond w admin head o = r ∧ ∀ r', respond w admin head o = r' → r' = r :=
  ⟨_, rfl, fun _ h => h.symm⟩

/-- the shipped list always finds a protocol (`C02.detect_total`: both catch-all classes are configured) -/
theorem always_a_protocol (c : Conn) : ∃ p, detect Generated.waptop C02.shipped c = some p :=
  C02.detect_total _ _ (by rw [C02.shipped_eq]; decide) (by rw [C02.shipped_eq]; decide) c

/-- **History independence of listings.** On a directory that does not change, whatever
    sequence of earlier listings and clock ticks came before, a listing request returns the
    listing of that directory: earlier read-only requests (which may have written or
    refreshed the cache) do not change the answer. -/
theorem listing_history_independent {D L : Type} (listingOf : D → L) (T : Nat) (d : D)
    (hist : List (Cache.Op D)) (hro : ∀ op ∈ hist, ∀ d', op ≠ .mutate d') :
    let s := hist.foldl (fun s op => (Cache.step listingOf T s op).1) (Cache.init d : Cache.St D L)
    (Cache.step listingOf T s .list).2 = some (listingOf d) := by
  intro s
  -- along a read-only history the directory is `d`, and so is every directory state on the trail
  have hd : s.dir = d ∧ ∀ p ∈ s.trail, p.2 = d := by
    refine List.foldlRecOn (motive := fun s : Cache.St D L => s.dir = d ∧ ∀ p ∈ s.trail, p.2 = d) hist _
      ⟨rfl, List.forall_mem_singleton.mpr rfl⟩ ?_
    rintro s ⟨h1, h2⟩ op hop
    fun_cases Cache.step listingOf T s op
    case case1 d' => exact absurd rfl (hro _ hop d')
    case case2 => exact ⟨h1, List.forall_mem_cons.mpr ⟨h1, h2⟩⟩
    all_goals exact ⟨h1, h2⟩
  -- the answer is the listing of a state on the trail (C10's invariant)
  obtain ⟨t, d', hmem, ho, -, -⟩ := (C10.inv_reachable listingOf T d hist).served listingOf T
  rw [ho, show d' = d from hd.2 _ hmem]

example : respond .gemini [] false (.notFound (lit "'/a\r\nb' does not exist")) = lit "51 '/a b' does not exist\r\n" := by
  repeat rw [lit_ofList]
  decide +kernel
example : wfStatus (respond .spartan [] false (.document (lit "text/plain") none none (lit "body\r\n"))) = true := by
  decide +kernel

/-! ### whatever is logged can be logged (`Model/Log`, `pygopherd/logger.py`)

A request's answer is logged before it is complete (`FileNotFound.__init__` logs), so a logging call that raises is
a request without a response.  The log line carries text decoded from the request. -/

/-- **whatever is logged, `syslog.syslog()` takes it**: for every message that `surrogateescape` can encode (every text
    decoded from request bytes, file names, error texts), the text `log_syslog` hands over holds no NUL and nothing
    UTF-8 cannot encode -/
theorem syslog_text_accepted (m : Str) (bs : Bytes) (h : encodeSE m = some bs) : syslogAccepts (syslogText m) = true := by
  rw [syslogAccepts_syslogText, h]; rfl

/-- ... in particular every text decoded from bytes (a selector, a file name, an error message quoting them) -/
theorem decoded_text_is_loggable (bs : Bytes) (h : ∀ b ∈ bs, b < 256) :
    syslogAccepts (syslogText (decodeSE bs)) = true :=
  syslog_text_accepted _ bs (encode_decode bs h)

/-- `log_file` writes the line back as the bytes it came from -/
theorem log_file_line_is_the_bytes (bs : Bytes) (h : ∀ b ∈ bs, b < 256) :
    logFileBytes (decodeSE bs) = some (bs ++ [10]) := by
  simp [logFileBytes, encode_decode bs h]

/-- plain ASCII text without NUL is logged as it is -/
theorem syslog_text_ascii_unchanged (m : Str) (h : ∀ c ∈ m, c ≠ 0 ∧ c < 128) : syslogText m = m := by
  -- each character is written as itself
  refine flatMap_eq_self fun c hc => ?_
  have := (h c hc).2
  rw [if_neg (by simp only [isEscapedByte, Bool.and_eq_true, decide_eq_true_eq]; omega), if_neg (h c hc).1]

/-- the two inputs that used to make `syslog.syslog()` raise: a byte that is not UTF-8, and a NUL -/
example : syslogText (decodeSE (lit "'/caf" ++ [0xe9] ++ lit "-dangling.txt' does not exist")) =
    lit "'/caf\\xe9-dangling.txt' does not exist" ∧
    syslogText (lit "'/a" ++ [0] ++ lit "b' does not exist") = lit "'/a\\x00b' does not exist" := by
  repeat rw [lit_ofList]
  decide +kernel

end Pyg.Props.C03
