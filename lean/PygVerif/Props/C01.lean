import PygVerif.Generated
import PygVerif.Lemmas.Selector
import PygVerif.Model.Proto
import PygVerif.Lemmas.Site
import PygVerif.Lemmas.SiteCongr
import PygVerif.Lemmas.SiteServe
/-!
# C01 — Nothing outside the document root is ever read, listed, run or revealed

`Generated.forbidden` / `Generated.urlForbidden` are re-extracted from
`/repo/pygopherd/handlers/base.py` and `url.py` on every run; deleting a literal from either
filter makes the `decide` obligations below fail to compile.
-/
namespace Pyg.Props.C01
open Pyg

/-- the filter of the code as it stands now -/
abbrev secure (s : Str) : Bool := secureB Generated.forbidden s

theorem dotdot_forbidden : [46,46] ∈ Generated.forbidden := by decide
theorem nul_forbidden : [0] ∈ Generated.forbidden := by decide

/-- the URL handler, the only handler that is exempt from the path filter, refuses
    NUL, LF, TAB, CR and the double quote -/
theorem url_filter_table :
    [0] ∈ Generated.urlForbidden ∧ [10] ∈ Generated.urlForbidden ∧ [9] ∈ Generated.urlForbidden ∧
    [13] ∈ Generated.urlForbidden ∧ [34] ∈ Generated.urlForbidden := by decide

/-- free of every forbidden substring: the part of the filter that path containment rests on
    (the filter proper also refuses a final `/.`, which is about the whole selector) -/
abbrev pathSafe (s : Str) : Prop := InfixSafe Generated.forbidden s

theorem secure_pathSafe {s : Str} (hs : secure s = true) : pathSafe s := secure_infixSafe hs

/-- Whatever a handler derives from a secure selector by *cutting* (prefixes, the real part
    of a virtual selector, `selector[2:]` of the type rewriter, path components) is free of
    every forbidden substring. -/
theorem secure_infix_closed {s t : Str} (hs : secure s = true) (ht : t <:+: s) :
    pathSafe t := infixSafe_infix_closed (secure_infixSafe hs) ht

theorem virtual_real_part_secure {s : Str} (hs : secure s = true) :
    pathSafe (virtualSplit s).1 :=
  secure_infix_closed hs (virtualSplit_prefix s).isInfix

theorem rewriter_tail_secure {s : Str} (hs : secure s = true) :
    pathSafe (s.drop 2) :=
  secure_infix_closed hs (List.drop_suffix 2 s).isInfix

/-- the last component of a secure selector is not a single dot: `/dir/.` is refused (its
    members would have selectors containing `/./`, which the filter refuses) -/
theorem secure_not_dot_last {s : Str} (hs : secure s = true) : isSuffixB [47, 46] s = false :=
  secure_not_dot_suffix hs

theorem secure_components {s : Str} (hs : secure s = true) :
    ∀ c ∈ splitOn 47 s, c ≠ [46,46] ∧ 0 ∉ c :=
  Pyg.secure_components hs dotdot_forbidden nul_forbidden

theorem secure_no_climb {s : Str} (hs : secure s = true) :
    ¬ [46,46] <:+: s ∧ ¬ [46,47] <:+: s ∧ ¬ [47,47] <:+: s ∧ ¬ [46,92] <:+: s ∧
    ¬ [92,92] <:+: s ∧ 0 ∉ s :=
  ⟨secure_no_infix hs dotdot_forbidden, secure_no_infix hs (by decide), secure_no_infix hs (by decide),
   secure_no_infix hs (by decide), secure_no_infix hs (by decide),
   fun h => secure_no_infix hs nul_forbidden (mem_infix_singleton h)⟩

theorem secure_path_is_root_plus_components (root : List Str) {s : Str} (hs : secure s = true) :
    norm (root ++ splitOn 47 s) = norm root ++ (splitOn 47 s).filter plainComp :=
  lexical_containment root _ (fun c hc => (secure_components hs c hc).1)

/-- For every secure selector and every root, the lexically normalised path made of the root's components followed
    by the selector's components starts with the normalised root.  (That is the string `root + selector` for a
    selector that begins with `/`; the statement does not ask for one, and for `x` below `/srv/root` it speaks of
    `/srv/root/x`, not of `/srv/rootx`.) -/
theorem secure_path_stays_under_root (root : List Str) {s : Str} (hs : secure s = true) :
    norm root <+: norm (root ++ splitOn 47 s) :=
  ⟨_, (secure_path_is_root_plus_components root hs).symm⟩

/-- HTTP(S): the selector handed to the handlers is `slashnormalize (unquote path)` where `path`
    is the request target up to the first `?` — percent-decoding happens exactly once (and it is
    this selector that `Model/Serve.handled` gives to `dispatch`, hence to the filter). -/
theorem http_selector_decoded_once (w q : Str) (nv : Bool) (c : Conn) :
    (parseRequest w q nv .http c).selector =
      slashnormalize (unquote ((splitOn 63 ((requestParts c.line)[1]?.getD [])).headD [])) := by
  simp [parseRequest]

theorem spartan_selector_decoded_once (w q : Str) (nv : Bool) (c : Conn) (h path n : Str)
    (hs : splitOn 32 (strip c.line) = [h, path, n]) :
    (parseRequest w q nv .spartan c).selector = slashnormalize (unquote path) := by
  simp [parseRequest, hs]

/-- Gopher selectors are never percent-decoded: what the filter sees is the literal field -/
theorem gopher_selector_literal (w q : Str) (nv : Bool) (c : Conn) :
    (parseRequest w q nv .gopher c).selector = slashnormalize ((requestList c.line).headD []) := by
  simp [parseRequest]

/-- a doubly encoded climb decodes to a *literal* `%2e%2e%2f`, which is an ordinary file name -/
theorem double_encoding_inert :
    unquote (lit "%252e%252e%252f") = lit "%2e%2e%2f" ∧ secure (lit "/%2e%2e%2fsecret") = true := by
  rw [lit_ofList, lit_ofList, lit_ofList]
  decide +kernel

/-- ... while one layer exposes the climb to the filter -/
theorem single_encoding_exposed :
    unquote (lit "/%2e%2e%2fsecret") = lit "/../secret" ∧ secure (unquote (lit "/%2e%2e%2fsecret")) = false ∧
    secure (unquote (lit "/a%5c%5cb")) = false ∧ secure (unquote (lit "/a%00")) = false := by
  rw [lit_ofList, lit_ofList, lit_ofList, lit_ofList]
  decide +kernel

/-! ### the kernel never leaves the root: resolution on the whole file system

`Model/Site.kwalk` is the kernel's path resolution on an arbitrary file-system tree `W`
(`..` climbs, at `/` it stays); the server hands it `root + selector`.  These theorems are
about every `W`, every root path and every absolute selector. -/

/-- **Resolution is confined to the root.**  For an absolute selector that passes the filter, `stat`
    as the kernel performs it on the whole file system is `stat` on the subtree below the
    document root: nothing outside the root takes part in the answer. -/
theorem resolution_confined (W : Node) (rootStr : Str) (anc : List Node) (kids : List (Str × Node))
    (hroot : kwalk [] W (splitOn 47 rootStr) = some (anc, .dir kids))
    (sel : Str) (hh : sel.head? = some 47) (hs : secure sel = true) :
    kstat W rootStr sel = statAt (.dir kids) sel :=
  (agree_statAt_kstat W rootStr anc kids hroot sel (inside_of_secure hs dotdot_forbidden nul_forbidden hh)).symm

/-- the same for the probe `selector + "/gophermap"` the gophermap handler makes -/
theorem gophermap_probe_confined (W : Node) (rootStr : Str) (anc : List Node) (kids : List (Str × Node))
    (hroot : kwalk [] W (splitOn 47 rootStr) = some (anc, .dir kids))
    (sel : Str) (hh : sel.head? = some 47) (hs : secure sel = true) :
    kstat W rootStr (sel ++ lit "/gophermap") = statAt (.dir kids) (sel ++ lit "/gophermap") :=
  (agree_statAt_kstat W rootStr anc kids hroot _
    (abs_probe onlyDots_noClimb (inside_of_secure hs dotdot_forbidden nul_forbidden hh))).symm

/-- **Two worlds, one answer.**  Two file systems `W`, `W'` in which the configured root path
    leads to the same directory give every absolute selector the same handler and the same
    response (not-found, menu, or the document's bytes) — for selectors the filter rejects
    (not-found in both) and for those it accepts (resolved below the root in both).  Symbolic
    links are not modelled. -/
theorem two_worlds_same_answer (c : SiteCfg) (hc : c.forbidden = Generated.forbidden)
    (W W' : Node) (rootStr : Str) (anc anc' : List Node) (kids : List (Str × Node))
    (hroot : kwalk [] W (splitOn 47 rootStr) = some (anc, .dir kids))
    (hroot' : kwalk [] W' (splitOn 47 rootStr) = some (anc', .dir kids))
    (sel : Str) (hh : sel.head? = some 47) :
    dispatch c (kstat W rootStr) sel = dispatch c (kstat W' rootStr) sel ∧
    serve c (kstat W rootStr) sel = serve c (kstat W' rootStr) sel := by
  -- both worlds answer as the root directory itself does
  have hin : secureB c.forbidden sel = true → Inside sel :=
    fun hs => inside_of_secure hs (hc ▸ dotdot_forbidden) (hc ▸ nul_forbidden) hh
  have hW := agree_statAt_kstat W rootStr anc kids hroot
  have hW' := agree_statAt_kstat W' rootStr anc' kids hroot'
  rw [← dispatch_agree onlyDots_noClimb hW c hin, ← dispatch_agree onlyDots_noClimb hW' c hin,
    ← serve_agree onlyDots_noClimb hW c hin, ← serve_agree onlyDots_noClimb hW' c hin]
  exact ⟨rfl, rfl⟩

theorem shipped_eaexts_ok : ∀ e ∈ Generated.eaexts, ExtOk e.1 := by unfold ExtOk; decide

/-- **Two worlds, one listing.**  For every configuration with the shipped filter and sidecar
    tables, every pair of file systems `W`, `W'` in which the configured root path leads to the
    same well-formed directory tree, and every absolute selector: the entries of a listing
    request — directory walk, link files, `.cap` overrides, sidecar abstracts, gophermap lines
    populated from the file system — are the same.  Nothing the listing code asks the file system about
    lies outside the root.  (Core handler chain; symbolic links are not modelled.) -/
theorem two_worlds_same_listing (c : SiteCfg) (hc : c.forbidden = Generated.forbidden) (he : c.eaexts = Generated.eaexts)
    (W W' : Node) (rootStr : Str) (anc anc' : List Node) (kids : List (Str × Node))
    (hroot : kwalk [] W (splitOn 47 rootStr) = some (anc, .dir kids))
    (hroot' : kwalk [] W' (splitOn 47 rootStr) = some (anc', .dir kids))
    (hwf : (Node.dir kids).wf = true) (sel : Str) (hh : sel.head? = some 47) :
    siteEntries c (kstat W rootStr) sel = siteEntries c (kstat W' rootStr) sel := by
  have key := fun V a hr => siteEntries_kstat c (hc ▸ dotdot_forbidden) (hc ▸ nul_forbidden) (he ▸ shipped_eaexts_ok)
    V rootStr a kids hr hwf sel hh
  rw [← key W anc hroot, ← key W' anc' hroot']

/-- a selector the filter rejects (and the URL handler does not claim) is answered not-found, whatever the file
    system holds -/
theorem insecure_is_notfound (c : SiteCfg) (hc : c.forbidden = Generated.forbidden) (st : StatFn) (sel : Str)
    (hs : secure sel = false) (hu : (c.url && urlSecureB c.urlForbidden sel) = false) : serve c st sel = .notFound := by
  rw [serve_eq_notFound_iff, dispatch_insecure (hc ▸ hs), hu]; rfl

/-- a `URL:` selector the URL handler claims is answered with the redirect page for that URL and
    nothing else: no path is derived from it, nothing is looked up -/
theorem url_selector_never_touches_the_file_system (c : SiteCfg) (st st' : StatFn) (sel : Str)
    (hu : (c.url && urlSecureB c.urlForbidden sel) = true) :
    serve c st sel = .generated (emit (urlRedirectSegs (urlOfSelector sel))) ∧ serve c st sel = serve c st' sel := by
  have hsv (s : StatFn) : serve c s sel = .generated (emit (urlRedirectSegs (urlOfSelector sel))) := by
    unfold serve; rw [dispatch_url hu]
  exact ⟨hsv st, (hsv st).trans (hsv st').symm⟩

/-- the hypotheses of `two_worlds_same_listing` are satisfiable: a well-formed root holding a link file, a `.cap` directory and a sidecar -/
example : (Node.dir [(lit "a.txt", .file [104, 105]), (lit ".names", .file []), (lit ".cap", .dir [(lit "a.txt", .file [])]),
    (lit "a.txt.abstract", .file [120]), (lit "sub dir", .dir [])]).wf = true := by
  rw [lit_ofList, lit_ofList, lit_ofList, lit_ofList, lit_ofList]
  decide +kernel

/-- a world with a secret next to the root: the climbing path reaches it in the kernel's
    resolution (`kstat` without the filter), and the filter is what answers not-found -/
example :
    let W : Node := .dir [(lit "srv", .dir [(lit "root", .dir [(lit "a.txt", .file [104, 105])]), (lit "secret", .file [115])])]
    ((kwalk [] W (splitOn 47 (lit "/srv/root"))).bind (·.2.names)) = some [lit "a.txt"] ∧
    (kstat W (lit "/srv/root") (lit "/a.txt")).bind Node.fileData = some [104, 105] ∧
    (kstat W (lit "/srv/root") (lit "/../secret")).bind Node.fileData = some [115] ∧
    secure (lit "/../secret") = false := by
  rw [lit_ofList, lit_ofList, lit_ofList, lit_ofList, lit_ofList, lit_ofList, lit_ofList]
  decide +kernel

example : secure (lit "/a.b/c d/~x") = true := by rw [lit_ofList]; decide +kernel
example : secure (lit "/a/../b") = false := by rw [lit_ofList]; decide
example : secure (lit "/a\\\\b") = false := by rw [lit_ofList]; decide
/-- without its hypothesis the conclusion of `secure_path_stays_under_root` fails: `..` climbs out -/
example : ¬ (norm [lit "root"] <+: norm ([lit "root"] ++ splitOn 47 (lit "/../etc"))) := by
  rw [lit_ofList, lit_ofList]; decide +kernel

end Pyg.Props.C01
