import PygVerif.Generated
import PygVerif.Model.Listing
import PygVerif.Lemmas.Str
import PygVerif.Lemmas.Collect
import PygVerif.Lemmas.EntryFrame
/-!
# C09 — gophermap files are rendered line for line as documented

`gmLine` / `gmParse` mirror `BuckGophermapHandler.prepare`; the statements below are the
documented reading of a gophermap (doc/standards/gophermap.txt), for every line and every
file.
-/
namespace Pyg.Props.C09
open Pyg

variable (fb : List Str) (ea : List (Str × Str)) (dm base : Str) (pop : Str → Option PopInfo)

/-- **One entry per line, in file order.** -/
theorem one_per_line (ls : List Str) (es : List Entry) (h : gmParse fb ea dm base pop ls = some es) :
    es.length = ls.length ∧ ∀ i (hi : i < ls.length), ∃ e, gmLine fb ea dm base pop ls[i] = some e ∧ es[i]? = some e := by
  rw [gmParse_eq_mapM, mapM_eq_some] at h
  have hl : es.length = ls.length := by simpa using (congrArg List.length h).symm
  refine ⟨hl, fun i hi => ⟨es[i]'(hl ▸ hi), ?_, List.getElem?_eq_getElem _⟩⟩
  have := congrArg (·[i]?) h
  rw [List.getElem?_map, List.getElem?_map, List.getElem?_eq_getElem hi, List.getElem?_eq_getElem (hl ▸ hi)] at this
  exact Option.some.inj this

/-- the parse of a concatenation is the concatenation of the parses (no state crosses lines) -/
theorem parse_append (a b : List Str) :
    gmParse fb ea dm base pop (a ++ b) =
      match gmParse fb ea dm base pop a, gmParse fb ea dm base pop b with
      | some x, some y => some (x ++ y)
      | _, _ => none := by
  simp only [gmParse_eq_mapM, List.mapM_append]
  cases a.mapM (gmLine fb ea dm base pop) <;> cases b.mapM (gmLine fb ea dm base pop) <;> rfl

/-- **A line without a tab is informational text**: type `i`, the stripped line as name. -/
theorem info_iff_no_tab (line : Str) (h : line.contains 9 = false) :
    gmLine fb ea dm base pop line = some (infoEntry (strip line)) := by
  unfold gmLine; simp only [h, Bool.false_and, Bool.false_eq_true, if_false]

/-- so is a line whose first field is empty (it has no type character) -/
theorem info_if_no_type (line : Str) (h : (((splitOn 9 line).map strip).headD []).isEmpty = true) :
    gmLine fb ea dm base pop line = some (infoEntry (strip line)) := by
  unfold gmLine; simp only [h, Bool.not_true, Bool.and_false, Bool.false_eq_true, if_false]

/-- a line with a tab and a type character is a link line built from its tab-separated, stripped fields -/
theorem link_iff_tab (line : Str) (h : line.contains 9 = true) (h0 : (((splitOn 9 line).map strip).headD []).isEmpty = false) :
    gmLine fb ea dm base pop line =
      (gmLinkRaw base (((splitOn 9 line).map strip).headD []) ((((splitOn 9 line).map strip)[1]?).getD [])
        ((splitOn 9 line).map strip)[2]? ((splitOn 9 line).map strip)[3]?).map (gmPopulate fb ea dm pop) := by
  unfold gmLine; simp only [h, h0, Bool.not_false, Bool.and_self, if_true]

/-- a link line raises exactly when it has no type character or its port field is no number -/
theorem gmLinkRaw_isSome (a0 a1raw : Str) (hostF portF : Option Str) :
    (gmLinkRaw base a0 a1raw hostF portF).isSome = WellFormedFields a0 portF := by
  unfold gmLinkRaw WellFormedFields
  cases a0 <;> cases gmPort portF <;> rfl

/-- `prepare` raises on a line exactly when the line is not well formed -/
theorem gmLine_isSome (line : Str) : (gmLine fb ea dm base pop line).isSome = WellFormedLine line := by
  unfold gmLine WellFormedLine
  simp only
  split
  · rename_i h
    rw [Option.isSome_map, gmLinkRaw_isSome, WellFormedFields, ((Bool.and_eq_true _ _).mp h).2, Bool.true_and]
  · rfl

/-- on well-formed lines (a port field, if present, is a number) `prepare` does not raise — whatever
    else the line lacks: a description, a selector, a type character -/
theorem wellformed_total (line : Str) (h : WellFormedLine line = true) :
    (gmLine fb ea dm base pop line).isSome = true :=
  (gmLine_isSome fb ea dm base pop line).trans h

theorem gmLinkRaw_eq_some (a0 a1raw : Str) (hostF portF : Option Str) (e : Entry)
    (h : gmLinkRaw base a0 a1raw hostF portF = some e) :
    ∃ t port, a0.head? = some t ∧ gmPort portF = some port ∧
      e = { selector := gmSelector base (gmSelField a0 a1raw), type := some [t], name := some (a0.drop 1),
            host := gmHost hostF, port := port } := by
  unfold gmLinkRaw at h
  split at h
  · rename_i t port h1 h2
    exact ⟨t, port, h1, h2, by simpa using h.symm⟩
  · simp at h

/-- **Type and description.** The first character of the first field is the item type, the
    rest of that field the description. -/
theorem type_and_desc (t : Nat) (nm a1raw : Str) (hostF portF : Option Str) (e : Entry)
    (h : gmLinkRaw base (t :: nm) a1raw hostF portF = some e) :
    e.type = some [t] ∧ e.name = some nm := by
  obtain ⟨t', port, h1, _, rfl⟩ := gmLinkRaw_eq_some base _ _ _ _ _ h
  simp at h1; subst h1; simp

/-- **Selector default and relative resolution.** A missing selector defaults to the
    description; a selector that starts neither with `/` nor with `URL:` is resolved against
    the directory; any other selector is taken as it is. -/
theorem selector_rule (a0 a1raw : Str) (hostF portF : Option Str) (e : Entry)
    (h : gmLinkRaw base a0 a1raw hostF portF = some e) :
    e.selector = gmSelector base (if a1raw.isEmpty then a0.drop 1 else a1raw) := by
  obtain ⟨_, _, _, _, rfl⟩ := gmLinkRaw_eq_some base _ _ _ _ _ h
  rfl

theorem relative_resolved (a1 : Str) (h1 : a1.head? ≠ some 47) (h2 : ¬ lit "URL:" <+: a1) :
    gmSelector base a1 = base ++ [47] ++ a1 := by
  have : isPrefixB (lit "URL:") a1 = false := Bool.eq_false_iff.mpr fun hb => h2 ((isPrefixB_iff _ _).mp hb)
  simp [gmSelector, this, h1]

theorem absolute_kept (a1 : Str) (h : a1.head? = some 47) : gmSelector base a1 = a1 := by
  simp [gmSelector, h]

/-- **Host and port fields.** Taken when present and non-empty, otherwise unset (= this
    server, see `host_port_default`). -/
theorem host_port_rule (a0 a1raw : Str) (hostF portF : Option Str) (e : Entry)
    (h : gmLinkRaw base a0 a1raw hostF portF = some e) :
    e.host = gmHost hostF ∧ gmPort portF = some e.port := by
  obtain ⟨_, port, _, hp, rfl⟩ := gmLinkRaw_eq_some base _ _ _ _ _ h
  exact ⟨rfl, hp⟩

theorem no_host_field : gmHost none = none ∧ gmHost (some []) = none ∧ gmPort none = some none ∧
    gmPort (some []) = some none := by decide

/-- **The file system is consulted only for absolute, filter-clean authored selectors.**  For a
    selector without a leading slash (`URL:…`; `root + selector` would name a sibling of the
    document root) or one the security filter rejects, the entry is what the author wrote,
    whatever the file-system oracle `pop` would answer — for every oracle. -/
theorem populate_ignores_fs_unless_absolute_secure (pop pop' : Str → Option PopInfo) (e : Entry)
    (h : e.selector.head? ≠ some 47 ∨ secureB fb e.selector = false) :
    gmPopulate fb ea dm pop e = e ∧ gmPopulate fb ea dm pop e = gmPopulate fb ea dm pop' e := by
  have key (p : Str → Option PopInfo) : gmPopulate fb ea dm p e = e := by
    unfold gmPopulate
    rcases h with h | h
    · have : (e.selector.head? == some 47) = false := by simpa using h
      simp [this]
    · simp [h]
  exact ⟨key pop, (key pop).trans (key pop').symm⟩

/-- population from the file system never changes where the gophermap author's link points:
    selector, host and port are kept.  (`populate` also keeps a type and a description that are not
    empty — `orStr` — which is not stated here.) -/
theorem populate_keeps_authored (e : Entry) :
    (gmPopulate fb ea dm pop e).selector = e.selector ∧ (gmPopulate fb ea dm pop e).host = e.host ∧
    (gmPopulate fb ea dm pop e).port = e.port := by
  unfold gmPopulate
  split
  · split
    · obtain ⟨h1, h2, h3, _⟩ := populateWith_frame ea dm ‹_› e
      exact ⟨h1, h2, h3⟩
    · exact ⟨rfl, rfl, rfl⟩
  · exact ⟨rfl, rfl, rfl⟩

/-- **Missing host and port mean this server**: the menu line of an entry without host/port
    carries the server's own name and port. -/
theorem host_port_default (srv : ServerId) (e : Entry) (nm : Str) (hn : e.name = some nm)
    (hh : e.host = none) (hp : e.port = none) :
    gopher0Line srv e = some (e.type.getD (lit "0") ++ menuField nm ++ [9] ++ menuField e.selector ++ [9] ++ menuField srv.name ++ [9] ++
      toDec srv.port ++ (if e.gplus then lit "\t+\r\n" else lit "\r\n")) := by
  simp [gopher0Line, hn, hostOf, portOf, hh, hp]

/-- **The same gophermap drives the listing in every protocol**: the parse has no protocol
    parameter, and `listingBody` renders, for every view, the walk over the entry list it is handed.
    The statement is only the second half — `listingBody` unfolded, by `rfl`, for any `es`; the
    hypothesis `_h` that `es` is a gophermap's parse is not used. -/
theorem same_entries_every_view (c : RenderCfg) (v : View) (g : Bool) (self : Entry) (ls : List Str)
    (es : List Entry) (_h : gmParse fb ea dm base pop ls = some es) :
    listingBody c v g self es =
      renderSeq c v {} (walk c.abstractHeaders (doAbstracts c.abstractEntries (v.groksAbstract || g)) self
        (if g then es.map gplusFix else es)) := rfl

def linkEntry (t : Nat) (desc sel : Str) (host : Option Str) (port : Option Int) : Entry :=
  { selector := sel, type := some [t], name := some desc, host := host, port := port }

/-! the sample of doc/standards/gophermap.txt, adapted -/
example : gmParse Generated.forbidden Generated.eaexts Generated.defaultMime (lit "/dir") (fun _ => none)
    [lit "Welcome to the map\n", lit "0Readme here\t/README\n", lit "0relative doc\tinner.txt\n",
     lit "1Remote\t/\texample.org\t70\n", lit "1just a name\n", lit "1name only\t\n"] =
  some [infoEntry (lit "Welcome to the map"),
        linkEntry 48 (lit "Readme here") (lit "/README") none none,
        linkEntry 48 (lit "relative doc") (lit "/dir/inner.txt") none none,
        linkEntry 49 (lit "Remote") (lit "/") (some (lit "example.org")) (some 70),
        infoEntry (lit "1just a name"),
        linkEntry 49 (lit "name only") (lit "/dir/name only") none none] := by
  repeat rw [lit_ofList]
  decide +kernel
example : WellFormedLine (lit "0x\t/y\th\t70\n") = true ∧ WellFormedLine (lit "\t/y\n") = true ∧ WellFormedLine (lit "1\t\n") = true ∧
    WellFormedLine (lit "0x\t/y\th\tseventy\n") = false := by
  repeat rw [lit_ofList]
  decide +kernel
/-- the two degenerate lines: no type character (shown as text), neither description nor selector (the directory itself) -/
example : (gmParse [] [] (lit "text/plain") (lit "/dir") (fun _ => none) [lit "\t/y\n", lit "1\t\n"]).map (·.map fun e => (e.type, e.name, e.selector)) =
    some [(some (lit "i"), some (lit "/y"), lit "fake"), (some (lit "1"), some [], lit "/dir/")] := by decide +kernel

end Pyg.Props.C09
