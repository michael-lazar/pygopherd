import PygVerif.Props.C05
import PygVerif.Model.Serve
import PygVerif.Lemmas.Proto
/-!
# C06 — The same site is seen through every protocol
-/
namespace Pyg.Props.C06
open Pyg Pyg.Props.C05

/-- **A selector resolves to the same object in all protocols.** Whatever the syntax used to
    follow a link to a listed object — Gopher, HTTP, WAP, Spartan — the handlers receive the
    same selector.  (Gopher+ and the TLS variants compute the selector by the same expressions of
    `parseRequest`; that the same selector means the same object and MIME type is how the model is
    built — `handled` has no protocol argument — and not part of the statement.) -/
theorem resolve_same (bs : Bytes) (hn : Normal bs) (w qp : Str) (nv : Bool)
    (cg ch cw cs : Conn) (rest : List Str) (m v m' v' host n : Str)
    (hg : requestList cg.line = decodeSE bs :: rest)
    (hh : requestParts ch.line = [m, quoteBytes bs, v])
    (hw : requestParts cw.line = [m', w ++ quoteBytes bs, v'])
    (hs : splitOn 32 (strip cs.line) = [host, quoteBytes bs, n]) :
    (parseRequest w qp nv .gopher cg).selector = (parseRequest w qp nv .http ch).selector ∧
    (parseRequest w qp nv .http ch).selector = (parseRequest w qp nv .wap cw).selector ∧
    (parseRequest w qp nv .wap cw).selector = (parseRequest w qp nv .spartan cs).selector ∧
    (parseRequest w qp nv .spartan cs).selector = slashnormalize (unquote (quoteBytes bs)) := by
  rw [(gopher_follow_link bs hn w qp nv cg rest hg).1, http_follow_link bs hn w qp nv ch m v hh,
    wap_follow_link bs hn w qp nv cw m' v' hw, spartan_follow_link bs hn w qp nv cs host n hs,
    gemini_path_roundtrip bs hn]
  exact ⟨rfl, rfl, rfl, rfl⟩

/-- **Trailing slash.** A directory selector with a trailing slash normalises to the same
    selector as without. -/
theorem trailing_slash (s : Str) (hh : s.head? = some 47) (hl : s.getLast? ≠ some 47) :
    slashnormalize (s ++ [47]) = slashnormalize s := by
  rw [slashnormalize_fixed s hh (Or.inl hl)]
  unfold slashnormalize
  simp only [List.getLast?_append, List.getLast?_singleton, Option.some_or, if_true, List.dropLast_concat]
  cases s with
  | nil => simp at hh
  | cons c cs => simp at hh; simp [hh]

theorem root_with_or_without_slash : slashnormalize [] = [47] ∧ slashnormalize [47] = [47] ∧
    slashnormalize [47, 47] = [47] := by decide

/-- an entry shaped like the info lines `writedir` makes of an abstract (`infoEntry`: selector `fake`, host `(NULL)`);
    the other entries of a walk are the directory's own -/
def isAbstractLine (e : Entry) : Bool := e.selector == lit "fake" && e.host == some (lit "(NULL)")

/-- the abstract of an entry as `writedir` shows it: one informational line per line of the `ABSTRACT` attribute -/
def abstractLines (e : Entry) : List Entry :=
  match e.getea (lit "ABSTRACT") with
  | some a => if a.isEmpty then [] else (splitlines a).map infoEntry
  | none => []

theorem walk_eq (h a : Bool) (self : Entry) (es : List Entry) :
    walk h a self es = (if h then abstractLines self else []) ++ es.flatMap fun e => e :: (if a then abstractLines e else []) := by
  rfl

theorem abstractLines_filter (e : Entry) : (abstractLines e).filter (fun e => !isAbstractLine e) = [] := by
  have : ∀ ls : List Str, (ls.map infoEntry).filter (fun e => !isAbstractLine e) = [] := fun ls =>
    List.filter_eq_nil_iff.mpr fun x hx => by obtain ⟨l, _, rfl⟩ := List.mem_map.mp hx; simp [isAbstractLine, infoEntry]
  unfold abstractLines
  split
  · split
    · rfl
    · exact this _
  · rfl

/-- **Same walk.** `writedir` renders, for every protocol, the directory's entries in the
    handler's order, each once; protocols differ only in whether abstract info lines are
    interleaved.  Stated on the walk: with abstracts off it *is* the entry list. -/
theorem walk_without_abstracts (self : Entry) (es : List Entry) : walk false false self es = es := by
  simp [walk_eq]

/-- whatever the abstract settings, removing the interleaved abstract lines gives back the entry list,
    provided no real entry is itself shaped like an abstract line -/
theorem walk_filter (h a : Bool) (self : Entry) (es : List Entry) (hes : ∀ e ∈ es, isAbstractLine e = false) :
    (walk h a self es).filter (fun e => !isAbstractLine e) = es := by
  have hd : (if h then abstractLines self else []).filter (fun e => !isAbstractLine e) = [] := by
    cases h <;> simp [abstractLines_filter]
  rw [walk_eq, List.filter_append, hd, List.nil_append, List.filter_flatMap]
  -- of an entry and its abstract lines the filter keeps the entry
  refine flatMap_eq_self fun e he => ?_
  cases a <;> simp [hes e he, abstractLines_filter]

theorem walk_entries (self : Entry) (es : List Entry) (h : ∀ e ∈ es, isAbstractLine e = false) :
    (walk false true self es).filter (fun e => !isAbstractLine e) = es :=
  walk_filter false true self es h

/-- the abstract decision is the same for every protocol that does not carry abstracts natively -/
theorem abstracts_uniform (opt : Str) :
    doAbstracts opt (View.gopher.groksAbstract) = doAbstracts opt (View.http.groksAbstract) ∧
    doAbstracts opt (View.http.groksAbstract) = doAbstracts opt (View.wap.groksAbstract) ∧
    doAbstracts opt (View.wap.groksAbstract) = doAbstracts opt (View.gemini.groksAbstract) ∧
    doAbstracts opt (View.gemini.groksAbstract) = doAbstracts opt (View.spartan.groksAbstract) :=
  ⟨rfl, rfl, rfl, rfl⟩

/-- **The same search string through HTTP and Gemini.** A query whose bytes are `bs` (non-empty),
    submitted percent-encoded as the HTTP `searchrequest` parameter or as the Gemini URL query
    (`search := some (unquote query)` in `parseRequest`), reaches the handlers as the same string
    `decodeSE bs`.  Gopher takes its tab field literally (`gopher_search_literal`); the Spartan request
    body enters the model already decoded, so nothing is stated about it. -/
theorem search_same (bs : Bytes) (h : Bytes.WF bs) (hne : bs ≠ []) :
    qsSearch (lit "searchrequest=" ++ quoteBytes bs) = some (decodeSE bs) ∧
    unquote (quoteBytes bs) = decodeSE bs := by
  refine ⟨?_, unquote_quoteBytes bs h⟩
  have hl : lit "searchrequest=" = lit "searchrequest" ++ [61] := by rw [lit_ofList, lit_ofList]; rfl
  have hkey : unquote (plusToSpace (lit "searchrequest")) = lit "searchrequest" := by rw [lit_ofList]; decide +kernel
  rw [hl, List.append_assoc, List.singleton_append, qsSearch_pair _ _ (by rw [lit_ofList]; decide) (not_mem_quoteBytes bs h rfl), hkey,
    plusToSpace_of_not_mem _ (not_mem_quoteBytes bs h rfl), unquote_quoteBytes bs h, beq_self_eq_true, if_pos rfl]
  exact quoteBytes_ne_nil bs hne

/-- Gopher: the search field is taken literally (after `strip`), never decoded -/
theorem gopher_search_literal (w qp : Str) (nv : Bool) (c : Conn) (sel q : Str)
    (h : requestList c.line = [sel, q]) : (parseRequest w qp nv .gopher c).search = some q := by
  simp [parseRequest, h]

/-- **A link with a host but no port names the same port everywhere.**  The Gopher menu line
    and the `gopher://` URL that HTTP and WAP listings show for such an entry (`linkUrl`; Gemini and
    Spartan take the same `geturl` branch in `gemUrl`) both carry this server's port (before repo
    commit a7609ce the URL said 70). -/
theorem host_only_same_port (srv : ServerId) (e : Entry) (h : Str) (hh : e.host = some h) (hne : h.isEmpty = false)
    (hp : e.port = none) (hu : startsUrl e.selector = false) (hu2 : isUrlSel e.selector = false) :
    portOf srv e = toDec srv.port ∧ hostOf srv e = h ∧
    linkUrl srv e = (quote (pyStrOpt e.type ++ e.selector)).map fun q =>
      lit "gopher://" ++ h ++ [58] ++ toDec srv.port ++ [47] ++ q := by
  refine ⟨by simp [portOf, hp], by simp [hostOf, hh], ?_⟩
  simp [linkUrl, hu, Entry.isLocal, hh, hne, Entry.geturl, hu2, hp]

/-- **The item type is the same in the menu line and in the `gopher://` URL.**  For an entry on another server the URL
    that HTTP, WAP, Gemini and Spartan listings show starts its path with the very type the Gopher menu line starts
    with — `0` when the link block gave none (before repo commit c4fc796 the URL said `None`). -/
theorem remote_link_same_type (srv : ServerId) (e : Entry) (nm h : Str) (hn : e.name = some nm) (hh : e.host = some h)
    (hne : h.isEmpty = false) (hu2 : isUrlSel e.selector = false) :
    ∃ t, (∀ line, gopher0Line srv e = some line → t <+: line) ∧
      e.geturl srv.name srv.port = (quote (t ++ e.selector)).map fun q =>
        lit "gopher://" ++ h ++ [58] ++ (match e.port with | some p => toDecInt p | none => toDec srv.port) ++ [47] ++ q := by
  refine ⟨e.type.getD (lit "0"), ?_, ?_⟩
  · intro line hl
    simp only [gopher0Line, hn, Option.some.injEq] at hl
    rw [← hl]; simp [List.append_assoc]
  · have : pyStrOpt e.type = e.type.getD (lit "0") := by cases e.type <;> rfl
    simp only [Entry.geturl, hu2, Bool.false_eq_true, if_false, hh, this, Option.getD_some]
    rfl

/-- **One entry list, one rendering per protocol (end to end).**  For a selector the handler chain
    answers with a menu, the response of Gopher, Gemini, Spartan and WAP is the protocol's own framing
    around `listingBody` of the *same* directory entry and the *same* entry list — `handled` has no
    protocol argument.  (With `walk_entries` / `abstracts_uniform`: same link entries, same order, same
    names.)  HTTP and Gopher+ menus are made from the same `handled c st rq.selector` in
    `respondParsed`, but are not in the statement. -/
theorem same_entries_every_protocol (c : ServeCfg) (st : StatFn) (rq : Parsed) (self : Entry) (es : List Entry)
    (hh : handled c st rq.selector = .menu self es) (hi : rq.geminiInput = none) (hb : rq.badRequest = false) :
    respondParsed c st .gopher rq = (listingBody c.render .gopher false self es).map (fun r => [.text r]) ∧
    respondParsed c st .gemini rq = (listingBody c.render .gemini false self es).map
      (fun r => [.text (statusLine (lit "20") (lit "text/gemini") ++ r ++ footerText c.geminiFooter)]) ∧
    respondParsed c st .spartan rq = (listingBody c.render .spartan false self es).map
      (fun r => [.text (statusLine (lit "2") (lit "text/gemini") ++ r ++ footerText c.spartanFooter)]) ∧
    (isPrefixB (lit "/PYGOPHERD-HTTPPROTO-ICONS/") rq.selector = false → rq.head = false →
      respondParsed c st .wap rq = (listingBody c.render .wap false self es).map
        (fun r => [.text (httpHeaders none (wapAdjust self.mimetype).1 ++ wapDirStart self.name ++ r ++ wapDirEnd)])) := by
  refine ⟨by simp [respondParsed, hh, hi, hb, Wire.ofProto], by simp [respondParsed, hh, hi, hb, Wire.ofProto],
    by simp [respondParsed, hh, hi, hb, Wire.ofProto], ?_⟩
  intro hicon hhead
  simp [respondParsed, hh, hi, hb, Wire.ofProto, hicon, hhead]

example : qsSearch (lit "searchrequest=a%20b%FF") = some (lit "a b" ++ [0xDCFF]) := by
  rw [lit_ofList, lit_ofList]
  decide +kernel
example : (walk false true { selector := [] } [{ selector := lit "/a", ea := [(lit "ABSTRACT", lit "x\ny")] }]).length = 3 := by
  decide +kernel

end Pyg.Props.C06
