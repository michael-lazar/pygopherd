import PygVerif.Generated
import PygVerif.Lemmas.Escape
import PygVerif.Lemmas.Selector
import PygVerif.Model.Listing
import PygVerif.Model.Proto
import PygVerif.Lemmas.Site
import PygVerif.Lemmas.SiteServe
import PygVerif.Props.C07
import PygVerif.Props.C01
/-!
# C05 — Listings only advertise what the server will serve (link closure)

The selector a listing advertises for a local object, rendered as a link by each protocol and
sent back in that protocol's own request syntax, reaches the handlers as the *same* selector:
the handler chain therefore makes the same decision it made when the listing was generated.
-/
namespace Pyg.Props.C05
open Pyg

/-- a selector as listings produce them: decoded from bytes (a file name path), starting with
    a slash and not ending with one (the root excepted) -/
structure Normal (bs : Bytes) : Prop where
  wf : Bytes.WF bs
  head : (decodeSE bs).head? = some 47
  last : (decodeSE bs).getLast? ≠ some 47 ∨ decodeSE bs = [47]

/-- **Round trip of the codecs**, for all byte strings -/
theorem codec_roundtrip (bs : Bytes) (h : Bytes.WF bs) :
    encodeSE (decodeSE bs) = some bs ∧ unquoteToBytes (quoteBytes bs) = bs ∧
    unquote (quoteBytes bs) = decodeSE bs :=
  ⟨encode_decode bs h, unquoteToBytes_quoteBytes bs h, unquote_quoteBytes bs h⟩

/-- what `quote` emits cannot cut a request line, an HTML attribute or a URL: no space, TAB,
    CR, LF, quote, angle bracket, `?`, `#`, `&`, `=`, `+`, `|`, NUL or backslash, ASCII only -/
theorem quote_safe_alphabet (bs : Bytes) (h : Bytes.WF bs) : ∀ c ∈ quoteBytes bs,
    c < 128 ∧ c ≠ 32 ∧ c ≠ 9 ∧ c ≠ 13 ∧ c ≠ 10 ∧ c ≠ 34 ∧ c ≠ 60 ∧ c ≠ 62 ∧ c ≠ 63 ∧ c ≠ 39 ∧ c ≠ 38 ∧
    c ≠ 35 ∧ c ≠ 61 ∧ c ≠ 43 ∧ c ≠ 124 ∧ c ≠ 0 ∧ c ≠ 92 :=
  fun c hc => isQuoteChar_spec c (quoteBytes_alphabet bs h c hc)

/-- the link an HTTP / WAP listing shows for a local entry is `quote(selector)`, and `/` for the empty selector (a
    link block with `Path=/`: the root, as the Gopher menu's empty selector and the Gemini / Spartan link say) -/
theorem local_link_is_quote (srv : ServerId) (e : Entry) (hl : e.isLocal = true)
    (hu : startsUrl e.selector = false) :
    linkUrl srv e = (quote e.selector).map fun q => if q.isEmpty then [47] else q := by
  simp [linkUrl, hu, hl]

/-- ... so for every entry with a selector (every member of a directory) the link is `quote(selector)` itself -/
theorem local_link_is_quote_of_selector (srv : ServerId) (e : Entry) (hl : e.isLocal = true)
    (hu : startsUrl e.selector = false) (hne : e.selector ≠ []) : linkUrl srv e = quote e.selector := by
  rw [local_link_is_quote srv e hl hu]
  unfold quote
  cases he : encodeSE e.selector with
  | none => rfl
  | some bs =>
    have := quoteBytes_ne_nil bs (encodeSE_ne_nil _ _ he hne)
    simp [this]

/-- **Gemini** (path component as split off by `urlparse`): the unquoted path is the selector. -/
theorem gemini_path_roundtrip (bs : Bytes) (hn : Normal bs) :
    slashnormalize (unquote (quoteBytes bs)) = decodeSE bs := by
  rw [unquote_quoteBytes bs hn.wf, slashnormalize_fixed _ hn.head hn.last]

/-- **HTTP(S).** Following the link `quote(selector)` with `GET <link> HTTP/1.0` hands the
    handlers exactly the selector the listing was generated for. -/
theorem http_follow_link (bs : Bytes) (hn : Normal bs) (w qp : Str) (nv : Bool) (c : Conn) (m v : Str)
    (hparts : requestParts c.line = [m, quoteBytes bs, v]) :
    (parseRequest w qp nv .http c).selector = decodeSE bs := by
  rw [C01.http_selector_decoded_once, hparts]
  simp only [List.getElem?_cons_succ, List.getElem?_cons_zero, Option.getD_some]
  rw [splitOn_no_sep 63 _ (not_mem_quoteBytes bs hn.wf rfl)]
  exact gemini_path_roundtrip bs hn

/-- the quoted selector starts with `/`: encoding the decoded string gives the bytes back, `/` encodes to itself
    and is not quoted -/
theorem quoted_head_slash (bs : Bytes) (hn : Normal bs) : ∃ t, quoteBytes bs = 47 :: t := by
  have he := encode_decode bs hn.wf
  have hd := hn.head
  cases hs : decodeSE bs with
  | nil => rw [hs] at hd; cases hd
  | cons c t =>
    rw [hs] at hd he
    cases hd
    obtain ⟨a, b, ha, _, rfl⟩ := encodeSE_cons_eq_some.mp he
    cases ha
    exact ⟨_, rfl⟩

/-- **WAP.** The WML listing prefixes local links with `waptop`; the prefix is recognised at
    the path boundary and stripped, and the same selector results. -/
theorem wap_follow_link (bs : Bytes) (hn : Normal bs) (w qp : Str) (nv : Bool) (c : Conn) (m v : Str)
    (hparts : requestParts c.line = [m, w ++ quoteBytes bs, v]) :
    (parseRequest w qp nv .wap c).selector = decodeSE bs := by
  have hunder : underWaptop w (w ++ quoteBytes bs) = true := by
    obtain ⟨t, ht⟩ := quoted_head_slash bs hn
    unfold underWaptop
    rw [(isPrefixB_iff _ _).mpr (List.prefix_append _ _), List.drop_left, ht]
    rfl
  simp only [parseRequest, hparts, List.getElem?_cons_succ, List.getElem?_cons_zero, Option.getD_some, hunder,
    beq_self_eq_true, Bool.and_self, if_true, List.drop_left']
  rw [splitOn_no_sep 63 _ (not_mem_quoteBytes bs hn.wf rfl)]
  exact gemini_path_roundtrip bs hn

theorem spartan_follow_link (bs : Bytes) (hn : Normal bs) (w qp : Str) (nv : Bool) (c : Conn) (host n : Str)
    (hparts : splitOn 32 (strip c.line) = [host, quoteBytes bs, n]) :
    (parseRequest w qp nv .spartan c).selector = decodeSE bs := by
  rw [C01.spartan_selector_decoded_once w qp nv c host _ n hparts]
  exact gemini_path_roundtrip bs hn

/-- **Gopher / Gopher+.** The menu line carries the selector itself. -/
theorem gopher_follow_link (bs : Bytes) (hn : Normal bs) (w qp : Str) (nv : Bool) (c : Conn) (rest : List Str)
    (hparts : requestList c.line = decodeSE bs :: rest) :
    (parseRequest w qp nv .gopher c).selector = decodeSE bs ∧
    (parseRequest w qp nv .gopherp c).selector = decodeSE bs := by
  simp [parseRequest, hparts, slashnormalize_fixed _ hn.head hn.last]

/-- a type-7 Gemini link carries the query prefix before the quoted selector `u`: the test by which `parseRequest`
    recognises the prefix (and routes to the input prompt) succeeds on it, and dropping the prefix gives `u` back -/
theorem gemini_query_prefix_roundtrip (qp u : Str) (hu : u.head? = some 47) :
    (qp ++ u == qp || isPrefixB (qp ++ [47]) (qp ++ u)) = true ∧ (qp ++ u).drop qp.length = u := by
  cases u with
  | nil => simp at hu
  | cons x xs =>
    simp at hu; subst hu
    have : isPrefixB (qp ++ [47]) (qp ++ 47 :: xs) = true :=
      (isPrefixB_iff _ _).mpr ⟨xs, by simp⟩
    simp [this]

/-- the root menu link: an empty quoted selector is shown as `/` by Gemini and Spartan -/
theorem gemini_root_link (srv : ServerId) :
    gemUrl srv none { selector := [] } = some [47] := by
  rfl

/-! ### closure on the whole-site model (`Model/Site`): what a directory lists is what a request gets

`st` is any view of the file system (`statAt R` below a root, `kstat W root` in the kernel's
terms); the statements hold for every tree, every configuration and every name. -/

theorem ite_ne' {α : Type} {p : Prop} [Decidable p] {a b x : α} (ha : a ≠ x) (hb : b ≠ x) :
    (if p then a else b) ≠ x := ite_ne ha hb

/-- what `dispatch` can answer, with what the file system holds at the selector -/
theorem dispatch_cases (c : SiteCfg) (st : StatFn) (sel : Str) :
    dispatch c st sel = .url ∨ dispatch c st sel = .notFound ∨
    (∃ kids, st sel = some (.dir kids) ∧ (dispatch c st sel = .gophermapDir ∨ dispatch c st sel = .dir)) ∨
    (∃ d, st sel = some (.file d) ∧
      (dispatch c st sel = .gophermapFile ∨ dispatch c st sel = .htmlFile ∨ dispatch c st sel = .file)) := by
  have hs := dispatch_stat c st sel
  cases hd : dispatch c st sel <;> rw [hd] at hs
  case url => exact .inl rfl
  case notFound => exact .inr (.inl rfl)
  case gophermapDir | dir => exact .inr (.inr (.inl (hs.2.imp fun _ h => ⟨h, by simp⟩)))
  all_goals exact .inr (.inr (.inr (hs.2.imp fun _ h => ⟨h, by simp⟩)))

/-- **A listed member is served.**  If a directory member contributes an entry to a listing,
    that entry's selector is `base/name`, a request for it is *not* answered not-found, and it
    is a document (the file's own bytes) when the entry was produced by a file handler and a
    menu (or, for a `URL:` selector, the redirect page) otherwise. -/
theorem listed_member_is_served (c : SiteCfg) (st : StatFn) (base name : Str) (k : Node) (e : Entry) (isf : Bool)
    (h : (childOf c st base name k).entry = some (e, isf)) :
    e.selector = base ++ [47] ++ name ∧ serve c st e.selector ≠ .notFound ∧
    (isf = true → ∃ d, st e.selector = some (.file d) ∧ serve c st e.selector = .document d) ∧
    (isf = false → serve c st e.selector = .menu ∨ ∃ t, serve c st e.selector = .generated t) := by
  obtain ⟨hne, he, rfl⟩ := childOf_entry_eq_some.mp h
  rw [entryAt_selector he]
  exact ⟨rfl, mt serve_eq_notFound_iff.mp hne, serve_fileHandler, serve_not_fileHandler hne⟩

/-- an entry of the plain handler's listing is the entry of its own selector, and a handler answers that selector -/
theorem plain_listing_entry (c : SiteCfg) (hu : c.dir.umn = false) (st : StatFn) (sel : Str) (es : List Entry)
    (hd : dispatch c st sel = .dir) (h : siteEntries c st sel = some es) (e : Entry) (he : e ∈ es) :
    dispatch c st e.selector ≠ .notFound ∧ entryAt c st e.selector = some e := by
  rw [siteEntries_dir hd] at h
  obtain ⟨kids, _, h⟩ := Option.bind_eq_some_iff.mp h
  obtain ⟨ch, hch, b, hent, _⟩ := (C07.plain_listed_iff c.dir hu sel _ es h e).mp he
  obtain ⟨⟨n, k⟩, _, rfl⟩ := List.mem_map.mp hch
  obtain ⟨hne, hea, _⟩ := childOf_entry_eq_some.mp hent
  rw [entryAt_selector hea]
  exact ⟨hne, hea⟩

/-- **Link closure of a real directory.**  No entry in the plain directory handler's listing of
    any directory of any site is answered not-found when its selector is requested (`serve` gives
    a menu, a document or a generated page) — whatever the names look like.  (The UMN handler
    adds entries that link files *author*; those are content, and a link file may name what does
    not exist.) -/
theorem plain_listing_closed (c : SiteCfg) (hu : c.dir.umn = false) (st : StatFn) (sel : Str) (es : List Entry)
    (hd : dispatch c st sel = .dir) (h : siteEntries c st sel = some es) :
    ∀ e ∈ es, serve c st e.selector ≠ .notFound :=
  fun e he => mt serve_eq_notFound_iff.mp (plain_listing_entry c hu st sel es hd h e he).1

/-! non-vacuity: a name with a space, reserved characters and a non-UTF-8 byte -/
example : Normal (lit "/a b/q?&=#" ++ [0xff] ++ lit ".txt") := by
  rw [lit_ofList, lit_ofList]
  refine ⟨?_, ?_, ?_⟩
  · intro b hb; revert b; decide +kernel
  · decide +kernel
  · left; decide +kernel
example : quote (decodeSE (lit "/a b/q?&=#" ++ [0xff] ++ lit ".txt")) = some (lit "/a%20b/q%3F%26%3D%23%FF.txt") := by
  rw [lit_ofList, lit_ofList, lit_ofList]
  decide +kernel

end Pyg.Props.C05
