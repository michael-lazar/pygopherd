import PygVerif.Model.Fail
/-!
# C20 — A failing client connection is contained in its own handler
-/
namespace Pyg.Props.C20
open Pyg.Fail

/-- **Contained.** Whatever the protocol frame, the number of writes, and whichever writes
    fail (any predicate on the write index: a reset at one point, a pipe that stays broken, a
    timeout that comes and goes), `flow` reports nothing as leaving the connection handler.  Every branch of
    `flow` is written with `escaped := none` (that the `except` clauses of `GopherRequestHandler.handle` catch the
    error is the modelling decision), so the statement reads the definition back, `rfl` in each case: the model
    has no execution in which anything escapes. -/
theorem contained (f : Frame) (wf : Bool) (n : Nat) (failsAt : Nat → Bool) (cls : Nat) :
    (flow f wf n failsAt cls).escaped = none := by
  fun_cases flow f wf n failsAt cls <;> rfl

theorem isLog_open : [Ev.openFile].filterMap isLog = [] := rfl
theorem isLog_close : [Ev.closeFile].filterMap isLog = [] := rfl
theorem isLog_log (c : Nat) : [Ev.log c].filterMap isLog = [c] := rfl
theorem isLog_nil : ([] : List Ev).filterMap isLog = [] := rfl
theorem isLog_open_cons (l : List Ev) : (Ev.openFile :: l).filterMap isLog = l.filterMap isLog := rfl

theorem writes_are_writes (failsAt : Nat → Bool) (s n : Nat) : ∀ e ∈ (writes failsAt s n).1, ∃ i, e = .write i := by
  fun_induction writes failsAt s n with
  | case1 => nofun
  | case2 s => exact List.forall_mem_singleton.mpr ⟨s, rfl⟩
  | case3 s _ _ _ _ heq ih => rw [heq] at ih; exact List.forall_mem_cons.mpr ⟨⟨s, rfl⟩, ih⟩

theorem writes_no_log (failsAt : Nat → Bool) (s n : Nat) : (writes failsAt s n).1.filterMap isLog = [] :=
  List.filterMap_eq_nil_iff.mpr fun e he => by obtain ⟨i, rfl⟩ := writes_are_writes failsAt s n e he; rfl

theorem count_writes {x : Ev} (hx : ∀ i, x ≠ .write i) (failsAt : Nat → Bool) (s n : Nat) :
    (writes failsAt s n).1.count x = 0 :=
  List.count_eq_zero.mpr fun h => by obtain ⟨i, rfl⟩ := writes_are_writes failsAt s n x h; exact hx i rfl

/-- the log lines of a request, in closed form -/
theorem logs_eq (f : Frame) (wf : Bool) (n : Nat) (failsAt : Nat → Bool) (cls : Nat) :
    logsOf (flow f wf n failsAt cls) =
      match (writes failsAt 0 n).2 with
      | none => []
      | some k =>
        match f with
        | .outsideTry => [cls]
        | .insideTry m => cls :: (if (writes failsAt (k + 1) m).2.isSome then [cls] else []) := by
  have hw := writes_no_log failsAt
  unfold flow logsOf
  simp only
  -- the writes log nothing; what is left of the events is the bracket and the log lines, and evaluates
  cases (writes failsAt 0 n).2 with
  | none => simp only [List.filterMap_append, hw]; cases wf <;> rfl
  | some k =>
    cases f with
    | outsideTry => simp only [List.filterMap_append, hw]; cases wf <;> rfl
    | insideTry m =>
      simp only [List.filterMap_append, hw]
      cases (writes failsAt (k + 1) m).2.isSome <;> cases wf <;> rfl

/-- **Logged under the failure's own class, and only that.** Every log line produced carries
    the class of the injected I/O error; there are at most two (the protocol's handler and,
    if the error page cannot be written either, the connection handler). -/
theorem own_class (f : Frame) (wf : Bool) (n : Nat) (failsAt : Nat → Bool) (cls : Nat) :
    (∀ c ∈ logsOf (flow f wf n failsAt cls), c = cls) ∧ (logsOf (flow f wf n failsAt cls)).length ≤ 2 := by
  rw [logs_eq]
  split
  · simp
  · split
    · simp
    · split <;> simp

theorem quiet_when_healthy (f : Frame) (wf : Bool) (n : Nat) (failsAt : Nat → Bool) (cls : Nat)
    (h : (writes failsAt 0 n).2 = none) : logsOf (flow f wf n failsAt cls) = [] := by
  rw [logs_eq, h]

/-- a failure is never silent: if some write fails, it is logged -/
theorem failure_is_logged (f : Frame) (wf : Bool) (n : Nat) (failsAt : Nat → Bool) (cls : Nat) (k : Nat)
    (h : (writes failsAt 0 n).2 = some k) : cls ∈ logsOf (flow f wf n failsAt cls) := by
  rw [logs_eq, h]
  cases f <;> simp

/-- **Every file opened for the request is closed**, at whatever write the connection fails. -/
theorem closed_all (f : Frame) (wf : Bool) (n : Nat) (failsAt : Nat → Bool) (cls : Nat) :
    opens (flow f wf n failsAt cls) = closes (flow f wf n failsAt cls) := by
  have ho := count_writes (x := .openFile) nofun failsAt
  have hc := count_writes (x := .closeFile) nofun failsAt
  unfold opens closes flow
  simp only [← List.count_eq_length_filter]
  -- the writes of the response and of an error page open and close nothing; what is left of the events is the
  -- bracket and the log lines, and evaluates
  cases (writes failsAt 0 n).2 with
  | none => simp only [List.count_append, ho, hc]; cases wf <;> rfl
  | some k =>
    cases f with
    | outsideTry => simp only [List.count_append, ho, hc]; cases wf <;> rfl
    | insideTry m =>
      simp only [List.count_append, ho, hc]
      cases (writes failsAt (k + 1) m).2.isSome <;> cases wf <;> rfl

/-! the third write of five resets once (HTTP-like frame with a 5-write error page) -/
example : flow (.insideTry 5) true 5 (fun i => i == 2) 104 =
    { escaped := none,
      events := [.openFile, .write 0, .write 1, .write 2, .closeFile, .log 104,
                 .write 3, .write 4, .write 5, .write 6, .write 7] } := by decide
/-- ... and a pipe that stays broken: the error page fails too, second log, still contained -/
example : (flow (.insideTry 5) true 5 (fun i => 2 ≤ i) 32).events =
    [.openFile, .write 0, .write 1, .write 2, .closeFile, .log 32, .write 3, .log 32] := by decide
example : (flow .outsideTry true 4 (fun i => i == 1) 110).events =
    [.openFile, .write 0, .write 1, .closeFile, .log 110] := by decide

end Pyg.Props.C20
