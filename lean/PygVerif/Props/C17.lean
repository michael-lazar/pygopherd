import PygVerif.Generated
import PygVerif.Lemmas.TalRefine
import PygVerif.Model.Metal
import PygVerif.Model.Include
import PygVerif.Lemmas.Str
/-!
# C17 — simpleTAL executes templates according to TAL/TALES semantics

* `run_refines_denote` — the stack machine on the compiled template produces exactly what the
  tree-walking semantics `denote` prescribes (TAL's order: define, condition, repeat,
  content | replace, attributes, omit-tag), for every template and context.
* `compile_targets_wf`, `compile_balanced` — every compiled program is structurally
  well-formed: every jump target is an end tag, and there are as many end tags as scope
  openings.  (That a command's target is the end tag of its own element is `Tal.At.elem`,
  on which `run_node` rests; these two statements do not say it.)
* `priority_order` — the opcode numbers extracted from simpleTAL (the compiler sorts an
  element's commands by opcode) are in TAL's order.
METAL (`use-macro`, `define-slot`, `fill-slot`): `Model/Metal.expandMetal` reads macro use as a
tree substitution into a plain TAL tree; `metal_then_tal_refines` carries the refinement theorem
over to macro-expanded templates, `metal_free_unchanged` says the substitution leaves TAL-only
templates alone, and the slot lemmas state the substitution's cases.  That simpleTAL's run-time
mechanism (program stack, slot maps) produces the document of the substitution is tied by
differential correspondence, not proved (partial; stated in DESIGN.md).
-/
namespace Pyg.Props.C17
open Pyg Pyg.Tal

/-- the compiler sorts the commands found on an element by opcode: the opcodes are in TAL order -/
theorem priority_order :
    Generated.TAL_DEFINE < Generated.TAL_CONDITION ∧ Generated.TAL_CONDITION < Generated.TAL_REPEAT ∧
    Generated.TAL_REPEAT < Generated.TAL_CONTENT ∧ Generated.TAL_CONTENT < Generated.TAL_REPLACE ∧
    Generated.TAL_REPLACE < Generated.TAL_ATTRIBUTES ∧ Generated.TAL_ATTRIBUTES < Generated.TAL_OMITTAG ∧
    Generated.TAL_OMITTAG < Generated.TAL_START_SCOPE ∧ Generated.METAL_USE_MACRO < Generated.METAL_DEFINE_SLOT ∧
    Generated.METAL_DEFINE_SLOT < Generated.METAL_FILL_SLOT ∧ Generated.METAL_FILL_SLOT < Generated.METAL_DEFINE_MACRO := by
  decide

/-- **Refinement** (see `Lemmas/TalRefine`). -/
theorem run_refines_denote (py : Str → Val) (t : List Node) (ctx : Ctx) :
    ∃ fuel, expand py fuel t ctx = some (denoteList py t ctx) :=
  Tal.run_refines_denote py t ctx

/-- the same, output and context apart (that no amount of fuel gives another result: `Tal.expand_denote`) -/
theorem expansion_is_denotation (py : Str → Val) (t : List Node) (ctx : Ctx) :
    ∃ fuel, (expand py fuel t ctx).map (·.1) = some (denoteList py t ctx).1 ∧
            (expand py fuel t ctx).map (·.2) = some (denoteList py t ctx).2 := by
  obtain ⟨f, hf⟩ := Tal.run_refines_denote py t ctx
  exact ⟨f, by simp [hf], by simp [hf]⟩

def targets : Cmd → List Nat
  | .cond _ t => [t]
  | .rep _ _ t => [t]
  | .content _ _ _ t => [t]
  | _ => []

def isEndTag : Option Cmd → Bool
  | some (.endTag _ _ _) => true
  | _ => false

/-- all jump targets of the commands of `seg` are end tags in `P` -/
def TargetsOk (P seg : List Cmd) : Prop := ∀ c ∈ seg, ∀ t ∈ targets c, isEndTag P[t]? = true

def countP (p : Cmd → Bool) (l : List Cmd) : Nat := (l.filter p).length
def isScope : Cmd → Bool | .startScope _ _ => true | _ => false
def isEnd : Cmd → Bool | .endTag _ _ _ => true | _ => false

theorem targetsOk_append {P a b : List Cmd} (ha : TargetsOk P a) (hb : TargetsOk P b) : TargetsOk P (a ++ b) :=
  List.forall_mem_append.mpr ⟨ha, hb⟩

theorem headCmds_tail (tag : Str) (atts orig : List (Str × Str)) (c : Cmds) (sg : Bool) (e : Nat) :
    ∃ rest, headCmds tag atts orig c sg e = .startScope orig atts :: rest ∧
      ∀ cmd ∈ rest, isScope cmd = false ∧ isEnd cmd = false ∧ ∀ t ∈ targets cmd, t = e := by
  refine ⟨_, headCmds_eq tag atts orig c sg e, fun cmd h => ?_⟩
  simp only [List.mem_append, List.mem_cons, List.not_mem_nil, or_false, Option.mem_toList, Option.map_eq_some_iff] at h
  rcases h with ⟨_, _, rfl⟩ | ⟨_, _, rfl⟩ | ⟨_, _, rfl⟩ | ⟨_, _, rfl⟩ | ⟨_, _, rfl⟩ | ⟨_, _, rfl⟩ | rfl <;>
    simp [isScope, isEnd, targets]

mutual
theorem node_targets : ∀ (n : Node) (P : List Cmd) (b : Nat), At P b (compile b n) → TargetsOk P (compile b n)
  | .data s, P, b, _ => by
    intro c hc t ht
    simp only [compile, List.mem_singleton] at hc
    subst hc; simp [targets] at ht
  | .elem tag atts orig c sg ne kids, P, b, hAt => by
    obtain ⟨_, hK, hE⟩ := hAt.elem
    simp only [compile]
    refine targetsOk_append ?_ (targetsOk_append (list_targets kids P _ hK) ?_)
    · obtain ⟨rest, h, hr⟩ := headCmds_tail tag atts orig c sg (b + headLen c + sizeList kids)
      rw [h]
      intro cmd hc t ht
      rcases List.mem_cons.mp hc with rfl | hc
      · cases ht
      · rw [(hr cmd hc).2.2 t ht, hE]; rfl
    · intro cmd hc t ht
      simp only [List.mem_singleton] at hc
      subst hc; simp [targets] at ht
theorem list_targets : ∀ (ns : List Node) (P : List Cmd) (b : Nat), At P b (compileList b ns) → TargetsOk P (compileList b ns)
  | [], _, _, _ => by intro c hc; simp [compileList] at hc
  | n :: ns, P, b, hAt => by
    simp only [compileList] at hAt ⊢
    have h2 := hAt.sub_right
    rw [length_compile] at h2
    exact targetsOk_append (node_targets n P b hAt.sub_left) (list_targets ns P (b + size n) h2)
end

/-- **Every jump target is an end tag.** In the compiled program of any template, every
    `condition`, `repeat` and `content` command points at an `ENDTAG_ENDSCOPE` command (of which
    element, the statement does not say). -/
theorem compile_targets_wf (t : List Node) : TargetsOk (compileList 0 t) (compileList 0 t) :=
  list_targets t _ 0 (At.whole _)

theorem countP_eq (p : Cmd → Bool) (l : List Cmd) : countP p l = l.countP p := List.countP_eq_length_filter.symm

theorem countP_append (p : Cmd → Bool) (a b : List Cmd) : countP p (a ++ b) = countP p a + countP p b := by
  simp only [countP_eq, List.countP_append]

mutual
theorem node_balanced : ∀ (n : Node) (b : Nat), countP isScope (compile b n) = countP isEnd (compile b n)
  | .data s, b => rfl
  | .elem tag atts orig c sg ne kids, b => by
    obtain ⟨rest, h, hr⟩ := headCmds_tail tag atts orig c sg (b + headLen c + sizeList kids)
    have z1 : rest.countP isScope = 0 := List.countP_eq_zero.mpr fun x hx => by simp [(hr x hx).1]
    have z2 : rest.countP isEnd = 0 := List.countP_eq_zero.mpr fun x hx => by simp [(hr x hx).2.1]
    have ih := list_balanced kids (b + headLen c)
    simp only [countP_eq] at ih ⊢
    simp only [compile, h, List.cons_append, List.countP_cons, List.countP_append, List.countP_nil, z1, z2, ih, isScope, isEnd]
    simp
theorem list_balanced : ∀ (ns : List Node) (b : Nat), countP isScope (compileList b ns) = countP isEnd (compileList b ns)
  | [], b => rfl
  | n :: ns, b => by simp only [compileList, countP_append, node_balanced n b, list_balanced ns (b + size n)]
end

/-- **Scopes are balanced**, by count: as many `START_SCOPE` as `ENDTAG_ENDSCOPE` commands, for
    every template (and the machine ends with the scope stack it started with — `run_node`). -/
theorem compile_balanced (t : List Node) :
    countP isScope (compileList 0 t) = countP isEnd (compileList 0 t) := list_balanced t 0

/-- a false condition suppresses the element's output; it is evaluated in the context the
    element's defines have produced -/
theorem condition_after_define (py : Str → Val) (tag : Str) (atts orig : List (Str × Str)) (c : Cmds) (sg ne : Bool)
    (kids : List Node) (ctx : Ctx) (h : (condPhase py orig c (definePhase py orig c ctx).1).1 = false) :
    (denote py (.elem tag atts orig c sg ne kids) ctx).1 = [] := by
  simp [denote, h]

/-- a repeat over a non-empty sequence outputs its body once per item, the first in the context
    `addRepeat` makes, the others (`repeatSem`) each in the context the one before has left.  For any
    `body`; in `denote` it is `bodySem`, so content, attributes and omit-tag are evaluated anew for each item -/
theorem repeat_iterates_body (py : Str → Val) (orig : List (Str × Str)) (c : Cmds) (v e : Str) (hr : c.repeat_ = some (v, e))
    (body : Ctx → Str × Ctx) (ctx : Ctx) (x : Val) (xs : List Val)
    (hd : isDefault (eval py { ctx with attrs := orig } e) = false)
    (hs : seqItems (eval py { ctx with attrs := orig } e) = some (x :: xs)) :
    (repeatPhase py orig c body ctx).1 =
      (body (({ ctx with attrs := orig } : Ctx).addRepeat v (xs.length + 1) x)).1 ++
      (repeatSem v body xs (body (({ ctx with attrs := orig } : Ctx).addRepeat v (xs.length + 1) x)).2).1 :=
  congrArg Prod.fst (repeatPhase_loop py orig body ctx hr hd hs)

theorem repeat_empty_no_output (py : Str → Val) (orig : List (Str × Str)) (c : Cmds) (v e : Str) (hr : c.repeat_ = some (v, e))
    (body : Ctx → Str × Ctx) (ctx : Ctx)
    (hd : isDefault (eval py { ctx with attrs := orig } e) = false)
    (hs : seqItems (eval py { ctx with attrs := orig } e) = some []) :
    (repeatPhase py orig c body ctx).1 = [] :=
  congrArg Prod.fst (repeatPhase_skip py orig body ctx hr hd (by simp [hs]))

/-- **Refinement carries over to macros.**  For every macro table, template with METAL
    annotations and context, the stack machine run on the compiled macro-expanded template
    yields exactly the denotation of the macro-expanded template.  (`run_refines_denote` at that tree: what the
    expansion returns plays no part — the slot lemmas below say that.) -/
theorem metal_then_tal_refines (py : Str → Val) (macros : List (Str × MNode)) (fuel : Nat) (t : List MNode) (ctx : Ctx) :
    ∃ f, expand py f (expandTemplate macros fuel t) ctx = some (denoteList py (expandTemplate macros fuel t) ctx) :=
  Tal.run_refines_denote py _ ctx

mutual
def depth : Node → Nat
  | .data _ => 0
  | .elem _ _ _ _ _ _ kids => depthList kids + 1
def depthList : List Node → Nat
  | [] => 0
  | k :: ks => max (depth k) (depthList ks)
end

mutual
/-- **TAL-only templates are left alone**: with no METAL annotation anywhere, the substitution is
    the identity (whatever the macro table and the slot map), given fuel beyond the nesting depth -/
theorem metal_free_node (macros slots : List (Str × MNode)) : ∀ (n : Node) (fuel : Nat), depth n < fuel + 1 →
    expandMetal macros fuel slots (embed n) = [n]
  | .data s, _, _ => by simp [embed, expandMetal]
  | .elem tag atts orig c sg ne kids, 0, h => by simp [depth] at h
  | .elem tag atts orig c sg ne kids, fuel + 1, h => by
    rw [depth, Nat.add_lt_add_iff_right] at h
    simp [embed, expandMetal, metal_free_list macros slots kids fuel h]
theorem metal_free_list (macros slots : List (Str × MNode)) : ∀ (ns : List Node) (fuel : Nat), depthList ns < fuel + 1 →
    expandMetalList macros fuel slots (embedList ns) = ns
  | [], _, _ => by simp [embedList, expandMetalList]
  | n :: ns, fuel, h => by
    rw [depthList, Nat.max_lt] at h
    simp [embedList, expandMetalList, metal_free_node macros slots n fuel h.1, metal_free_list macros slots ns fuel h.2]
end

theorem metal_free_unchanged (macros : List (Str × MNode)) (t : List Node) :
    expandTemplate macros (depthList t) (embedList t) = t :=
  metal_free_list macros [] t (depthList t) (Nat.lt_succ_self _)

/-- **`use-macro`**: the element is replaced by the macro's own element, expanded with the fillers
    found below the use site; the use site's tag and content are not output -/
theorem use_macro_substitutes (macros slots : List (Str × MNode)) (fuel : Nat) (tag : Str) (atts orig : List (Str × Str)) (c : Cmds)
    (sg ne : Bool) (m : Str) (ds fs : Option Str) (kids : List MNode) (body : MNode) (hm : slotLookup macros m = some body) :
    expandMetal macros (fuel + 1) slots (.elem tag atts orig c sg ne (some m) ds fs kids) =
      expandMetal macros fuel (fillersList kids) (stripUse body) := by
  simp [expandMetal, hm]

/-- a macro expression that names no macro outputs nothing (the element and its content vanish) -/
theorem unknown_macro_outputs_nothing (macros slots : List (Str × MNode)) (fuel : Nat) (tag : Str) (atts orig : List (Str × Str))
    (c : Cmds) (sg ne : Bool) (m : Str) (ds fs : Option Str) (kids : List MNode) (hm : slotLookup macros m = none) :
    expandMetal macros (fuel + 1) slots (.elem tag atts orig c sg ne (some m) ds fs kids) = [] := by
  simp [expandMetal, hm]

/-- **`define-slot` with a filler**: the filler element stands in for the slot element -/
theorem filled_slot_is_filler (macros slots : List (Str × MNode)) (fuel : Nat) (tag : Str) (atts orig : List (Str × Str)) (c : Cmds)
    (sg ne : Bool) (s : Str) (fs : Option Str) (kids : List MNode) (filler : MNode) (hf : slotLookup slots s = some filler) :
    expandMetal macros (fuel + 1) slots (.elem tag atts orig c sg ne none (some s) fs kids) =
      expandMetal macros fuel slots (stripSlot filler) := by
  simp [expandMetal, hf]

/-- **`define-slot` without a filler** keeps its own content: it is an ordinary element -/
theorem unfilled_slot_keeps_default (macros slots : List (Str × MNode)) (fuel : Nat) (tag : Str) (atts orig : List (Str × Str))
    (c : Cmds) (sg ne : Bool) (s : Str) (fs : Option Str) (kids : List MNode) (hf : slotLookup slots s = none) :
    expandMetal macros (fuel + 1) slots (.elem tag atts orig c sg ne none (some s) fs kids) =
      [.elem tag atts orig c sg ne (expandMetalList macros fuel slots kids)] := by
  simp [expandMetal, hf]

/-- fillers belong to the nearest enclosing `use-macro`: a nested use site hides its own -/
theorem fillers_stop_at_nested_use (tag : Str) (atts orig : List (Str × Str)) (c : Cmds) (sg ne : Bool) (m : Str)
    (ds fs : Option Str) (kids : List MNode) :
    fillers (.elem tag atts orig c sg ne (some m) ds fs kids) = [] := by
  simp [fillers]

/-- repeat variables: `index`, `number` = index + 1, `length` -/
theorem repeat_vars (pos len : Nat) :
    repeatAttr ⟨pos, len⟩ (lit "index") = some (.int pos) ∧ repeatAttr ⟨pos, len⟩ (lit "number") = some (.int (pos + 1)) ∧
    repeatAttr ⟨pos, len⟩ (lit "length") = some (.int len) :=
  ⟨rfl, rfl, rfl⟩

/-- executable spot checks of the evaluator on the forms the TALES specification lists (tests run by the evaluator at build time, not theorems) -/
def isStr (v : Val) (s : Str) : Bool := match v with | .str t => t == s | _ => false
def isInt (v : Val) (n : Int) : Bool := match v with | .int t => t == n | _ => false
#guard isStr (eval (fun _ => .none) { globals := [(lit "a", .str (lit "A")), (lit "l", .list [.int 1, .int 2])] } (lit "missing | a")) (lit "A")
#guard isStr (eval (fun _ => .none) { globals := [(lit "a", .str (lit "A"))] } (lit "string:x ${a} $$ $a!")) (lit "x A $ ")
#guard isInt (eval (fun _ => .none) { globals := [(lit "l", .list [])] } (lit "not:l")) 1
#guard isInt (eval (fun _ => .none) {} (lit "exists:nothing")) 1
example : lowerRoman 1993 = lit "mcmxciv" ∧ lowerLetter 0 = lit "a" ∧ lowerLetter 27 = lit "bb" := by decide +kernel

/-- **Refinement carries over to included templates** (`Model/Include`).  For every table of templates, page and
    context, the stack machine run on the compiled page with the included templates' nodes
    substituted yields exactly the denotation of that tree (`run_refines_denote` at that tree, whatever the
    substitution returns). -/
theorem include_then_tal_refines (py : Str → Val) (tpls : List (Str × List Node)) (fuel : Nat) (t : List Node) (ctx : Ctx) :
    ∃ f, expand py f (inlineList tpls fuel t) ctx = some (denoteList py (inlineList tpls fuel t) ctx) :=
  Tal.run_refines_denote py _ ctx

/-- `tal:content="structure T"` with `T` a template of the table: the element keeps its tag and its
    other commands; its children are the template's nodes (themselves substituted) -/
theorem content_include_substitutes (tpls : List (Str × List Node)) (fuel : Nat) (tag : Str) (atts orig : List (Str × Str))
    (c : Cmds) (sg ne : Bool) (kids body : List Node) (e : Str)
    (hc : c.content = some (false, true, e)) (ht : tplLookup tpls e = some body) :
    inlineNode tpls (fuel + 1) (.elem tag atts orig c sg ne kids) =
      .elem tag atts orig { c with content := none } sg ne (inlineList tpls fuel body) := by
  simp [inlineNode, hc, ht]

/-- `tal:replace="structure T"`: the same with the element's own tag omitted -/
theorem replace_include_substitutes (tpls : List (Str × List Node)) (fuel : Nat) (tag : Str) (atts orig : List (Str × Str))
    (c : Cmds) (sg ne : Bool) (kids body : List Node) (e : Str)
    (hc : c.content = some (true, true, e)) (ht : tplLookup tpls e = some body) :
    inlineNode tpls (fuel + 1) (.elem tag atts orig c sg ne kids) =
      .elem tag atts orig { c with content := none, omitTag := some alwaysTrue } sg ne (inlineList tpls fuel body) := by
  simp [inlineNode, hc, ht]

/-- an expression that does not name a template of the table leaves the element its commands and its
    own children (in which the substitution goes on) -/
theorem no_template_no_substitution (tpls : List (Str × List Node)) (fuel : Nat) (tag : Str) (atts orig : List (Str × Str))
    (c : Cmds) (sg ne : Bool) (kids : List Node)
    (h : ∀ rep e, c.content = some (rep, true, e) → tplLookup tpls e = none) :
    inlineNode tpls (fuel + 1) (.elem tag atts orig c sg ne kids) = .elem tag atts orig c sg ne (inlineList tpls fuel kids) := by
  unfold inlineNode
  cases hc : c.content with
  | none => rfl
  | some v =>
    obtain ⟨rep, raw, e⟩ := v
    cases raw with
    | false => rfl
    | true => simp [h rep e hc]

mutual
/-- **With no template in the table nothing changes**: pages that include nothing are left alone -/
theorem include_free_node : ∀ (n : Node) (fuel : Nat), inlineNode [] fuel n = n
  | .data s, fuel => by cases fuel <;> simp [inlineNode]
  | .elem tag atts orig c sg ne kids, 0 => by simp [inlineNode]
  | .elem tag atts orig c sg ne kids, fuel + 1 => by
    rw [no_template_no_substitution [] fuel tag atts orig c sg ne kids (fun _ _ _ => by simp [tplLookup])]
    rw [include_free_list kids fuel]
theorem include_free_list : ∀ (ns : List Node) (fuel : Nat), inlineList [] fuel ns = ns
  | [], fuel => by simp [inlineList]
  | k :: ks, fuel => by simp [inlineList, include_free_node k fuel, include_free_list ks fuel]
end

theorem lstrip_append_bar (p rest : Str) : lstrip (p ++ 124 :: rest) = lstrip p ++ 124 :: rest := by
  have h : ¬ isSpace 124 = true := by decide
  rw [lstrip_eq, lstrip_eq, List.dropWhile_append]
  split
  · rename_i he
    rw [List.isEmpty_iff.mp he, List.dropWhile_cons_of_neg h, List.nil_append]
  · rfl

theorem splitOn_head_bar (a rest : Str) (h : 124 ∉ a) : (splitOn 124 (a ++ 124 :: rest)).headD [] = a := by
  rw [splitOn_append_sep, splitOn_no_sep _ _ h]; rfl

theorem lstrip_idem (p : Str) : lstrip (lstrip p) = lstrip p := by
  induction p with
  | nil => rfl
  | cons c cs ih => by_cases h : isSpace c = true <;> simp [lstrip, h, ih]

theorem first_alternative (p rest : Str) (hbar : 124 ∉ p) :
    strip ((splitOn 124 (lstripSp (p ++ 124 :: rest))).headD []) = strip p := by
  rw [lstripSp, lstrip_append_bar, splitOn_head_bar _ _ fun h => hbar (mem_lstrip h), strip, lstrip_idem, ← strip]

/-- **`exists:` looks at its first alternative the way it is meant, blanks or not**: whenever the first alternative,
    stripped, is a path that is found, `exists: first | rest…` is true — whatever blanks stand around the bar and
    whatever follows it, as long as the expression as a whole has no blanks at its ends (`hs`; `Tal.evalFuel_exists_found`
    does without).  (Before repo commit 632c47c a blank before the bar made the first alternative unfindable.) -/
theorem exists_first_alternative_found (py : Str → Val) (fuel : Nat) (c : Ctx) (p rest : Str) (v : Val)
    (hbar : 124 ∉ p) (hfound : traversePath c (strip p) = some v)
    (hs : strip (lit "exists:" ++ p ++ 124 :: rest) = lit "exists:" ++ p ++ 124 :: rest) :
    evalFuel py (fuel + 1) c (lit "exists:" ++ p ++ 124 :: rest) = .val (.int 1) :=
  evalFuel_exists_found py c fuel ((first_alternative p rest hbar).symm ▸ hfound) (hs.trans (List.append_assoc ..))

/-- ... and `nocall:` hands that first alternative back as it is (it used to fall through to — and call — the next one) -/
theorem nocall_first_alternative_found (py : Str → Val) (fuel : Nat) (c : Ctx) (p rest : Str) (v : Val)
    (hbar : 124 ∉ p) (hfound : traversePath c (strip p) = some v)
    (hs : strip (lit "nocall:" ++ p ++ 124 :: rest) = lit "nocall:" ++ p ++ 124 :: rest) :
    evalFuel py (fuel + 1) c (lit "nocall:" ++ p ++ 124 :: rest) = .val v :=
  evalFuel_nocall_found py c fuel ((first_alternative p rest hbar).symm ▸ hfound) (hs.trans (List.append_assoc ..))

/-- the hypotheses are met by the template that showed the defect: `exists: s | missing` with `s` defined -/
example : 124 ∉ lit " s " ∧ strip (lit "exists: s | missing") = lit "exists: s | missing" ∧
    lit "exists: s | missing" = lit "exists:" ++ lit " s " ++ 124 :: lit " missing" ∧
    (match traversePath { globals := [(lit "s", .str (lit "v"))] } (strip (lit " s ")) with
     | some (.str x) => x == lit "v" | _ => false) = true := by decide +kernel

end Pyg.Props.C17
