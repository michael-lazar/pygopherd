import PygVerif.Generated
import PygVerif.Lemmas.Skel
import PygVerif.Lemmas.Selector
/-!
# C13 — Generated HTML, WML and Gopher+ blocks cannot be subverted by data

The page builders of `Model/Render` are the definitions the correspondence check runs
against the real `renderobjinfo` / `filenotfound` / `handlerwrite` / `HTMLURLHandler.write`.
Every builder is shown to put data only in escaped slots that the tokenizer reaches outside
tag position; `skeleton_of_shape` then gives: the element / attribute skeleton is the same
for all data.
-/
namespace Pyg.Props.C13
open Pyg

/-- a builder is *safe from `st`*: all slots outside tag position, and it ends in text state -/
def Safe (st : TState) (segs : List Seg) : Prop :=
  slotsOk st (segs.map Seg.shape) = true ∧ endState st (segs.map Seg.shape) = .text

/-- **Main theorem.** For a safe page, the skeleton and the final tokenizer state are the
    same for any other page of the same shape — i.e. for any other data whatsoever. -/
theorem data_cannot_change_structure (a b : List Seg) (st : TState)
    (hshape : a.map Seg.shape = b.map Seg.shape) (h : Safe st a) :
    run st (emit a) = run st (emit b) ∧ (run st (emit a)).1 = .text := by
  refine ⟨skeleton_of_shape a b st hshape h.1, ?_⟩
  rw [run_endState a st h.1]; exact h.2

theorem safe_append {st : TState} {a b : List Seg} (ha : Safe st a) (hb : Safe .text b) :
    Safe st (a ++ b) := by
  unfold Safe at *
  simp only [List.map_append, slotsOk_append, endState_append, ha.1, ha.2, hb.1, hb.2, Bool.and_self,
    and_self]

theorem safe_flatten {α : Type} {f : α → List Seg} (h : ∀ x, Safe .text (f x)) (l : List α) :
    Safe .text (l.map f).flatten := by
  induction l with
  | nil => exact ⟨rfl, rfl⟩
  | cons x r ih => exact safe_append (h x) ih

theorem escape_inert (d : Str) : ∀ c ∈ htmlEscape true d, c ≠ 60 ∧ c ≠ 62 ∧ c ≠ 34 ∧ c ≠ 39 :=
  fun c hc => htmlMeta_eq_false_iff.mp (htmlEscape_no_meta d c hc)

/-! ### the page builders

`Safe` sees a page through `Seg.shape`, which forgets the data: once a builder's conditions are
split, what is left is a closed template, and the checker is evaluated on it (after `lit_ofList`
has decoded the literals).  Two builders insert literals that are not the server's own text but
come from a configured table — the icon file name and the WML access key; these are inert, and
an inert literal may stand wherever a data slot may (`safe_lit_inert`). -/

theorem safe_lit_inert {st : TState} {d : Str} (hd : inert d) (a : List Seg) {b : List Seg}
    (h : Safe st (a ++ .esc [] :: b)) : Safe st (a ++ .lit d :: b) := by
  unfold Safe at *
  simp only [List.map_append, List.map_cons, Seg.shape] at *
  have := lit_inert_as_data hd _ _ st h.1
  exact ⟨this.1, this.2.trans h.2⟩

theorem iconFor_inert {icons : List (Str × Str)} (hi : ∀ kv ∈ icons, inert kv.2) (e : Entry) : inert (iconFor icons e) := by
  have gen : inert (lit "generic.gif") := by rw [lit_ofList]; decide +kernel
  unfold iconFor
  -- the default as a variable: closing a goal across the literal would make the unifier decode it
  generalize lit "generic.gif" = g at gen ⊢
  split
  · exact gen
  · cases hf : icons.find? _ with
    | none => exact gen
    | some kv => exact hi kv (List.mem_of_find?_eq_some hf)

theorem httpRowHead_safe {icons : List (Str × Str)} (hi : ∀ kv ∈ icons, inert kv.2) (e : Entry) :
    Safe .text (httpRowHead icons e) := by
  refine safe_lit_inert (iconFor_inert hi e) [_] ?_
  simp only [Safe, List.cons_append, List.nil_append, List.map_cons, List.map_nil, Seg.shape]
  repeat rw [lit_ofList]
  decide +kernel

theorem httpRowTail_safe (e : Entry) (url : Str) : Safe .text (httpRowTail e url) := by
  unfold httpRowTail
  -- seven pieces, each from text to text (counted, since one more `apply` on a piece fails only after the unifier
  -- has unfolded the piece)
  iterate 6 apply safe_append
  all_goals
    repeat' split
    all_goals
      simp only [Safe, List.map_cons, List.map_nil, Seg.shape]
      repeat rw [lit_ofList]
      decide +kernel

/-- every HTTP listing row, for every entry and every link URL, whatever icon table of inert names is configured -/
theorem httpRow_safe {icons : List (Str × Str)} (hi : ∀ kv ∈ icons, inert kv.2) (e : Entry) (url : Str) :
    Safe .text (httpRowSegs icons e url) :=
  safe_append (httpRowHead_safe hi e) (httpRowTail_safe e url)

/-- error page, for every message (the message echoes the selector) -/
theorem httpError_safe (msg : Str) : Safe .text (httpErrorSegs msg) := by
  unfold Safe httpErrorSegs
  simp only [List.map_cons, List.map_nil, Seg.shape]
  repeat rw [lit_ofList]
  decide +kernel

theorem httpDirStart_safe (name : Option Str) : Safe .text (httpDirStartSegs name []) := by
  unfold httpDirStartSegs
  iterate 6 apply safe_append
  all_goals
    repeat' split
    all_goals
      simp only [Safe, List.map_cons, List.map_nil, Seg.shape]
      repeat rw [lit_ofList]
      decide +kernel

/-- the URL redirect page: the URL sits in three quoted attribute values and once in text -/
theorem urlRedirect_safe (url : Str) : Safe .text (urlRedirectSegs url) := by
  unfold Safe urlRedirectSegs
  simp only [List.map_cons, List.map_nil, Seg.shape]
  repeat rw [lit_ofList]
  decide +kernel

/-- belt and braces for the redirect page: a selector containing `"` never reaches it -/
theorem redirect_refuses_quote (s : Str) (h : urlSecureB Generated.urlForbidden s = true) : 34 ∉ s := fun hm =>
  (infixOk_iff _ s).mp (Bool.and_eq_true_iff.mp h).2 [34] (by decide) (mem_infix_singleton hm)

theorem accesskey_inert (i : Nat) : inert [Generated.accesskeys.getD i 0] := by
  have all : inert Generated.accesskeys := by decide +kernel
  intro c hc
  rw [List.mem_singleton.mp hc, List.getD_eq_getElem?_getD]
  cases h : Generated.accesskeys[i]? with
  | none => rfl
  | some k => exact all k (List.mem_of_getElem? h)

theorem wapRow_safe (st : WapState) (e : Entry) (url : Str) :
    Safe .text (wapRowSegs Generated.waptop Generated.accesskeys st e url).1 := by
  unfold wapRowSegs
  dsimp only
  -- opening tag ++ name ++ closing tag ++ search form ++ line break, each from text to text
  iterate 4 apply safe_append
  -- five goals; the first is the opening tag, split on "is it a link" and on "is an access key left": with a key,
  -- the key stands once in text and once in a quoted attribute.  The other branches and pieces are closed templates.
  split
  split
  refine safe_lit_inert (accesskey_inert _) [] (safe_lit_inert (accesskey_inert _) [_, _] ?_)
  all_goals
    simp only [Safe, apply_ite (List.map Seg.shape), List.map_append, List.map_cons, List.map_nil, Seg.shape]
    repeat' split
    all_goals
      repeat rw [lit_ofList]
      decide +kernel

theorem wapError_safe (msg : Str) : Safe .text (wapErrorSegs msg) := by
  unfold Safe wapErrorSegs wmlHeader
  simp only [List.map_cons, List.map_nil, Seg.shape]
  repeat rw [lit_ofList]
  decide +kernel

theorem wapDirStart_safe (name : Option Str) : Safe .text (wapDirStartSegs name) := by
  unfold Safe wapDirStartSegs wmlHeader
  simp only [List.map_cons, List.map_nil, Seg.shape]
  repeat rw [lit_ofList]
  decide +kernel

/-- the text → WML page for every file content -/
theorem wapText_safe (lines : List Str) : Safe .text (wapTextSegs lines) := by
  unfold wapTextSegs wmlHeader
  refine safe_append (safe_append ?_ (safe_flatten (fun l => ?_) _)) ?_
  rotate_left          -- the goal for one line first: it has the `if` on an empty line
  dsimp only
  split
  all_goals
    simp only [Safe, List.map_cons, List.map_nil, Seg.shape]
    repeat rw [lit_ofList]
    decide +kernel

/-- the start of an HTTP directory page and any number of rows, nothing in between (the page's end, `httpDirEnd`
    with the directory's own link, is not in the statement) -/
theorem httpPage_safe (name : Option Str) (rows : List (Entry × Str)) :
    Safe .text (httpDirStartSegs name [] ++
      (rows.map fun r => httpRowSegs Generated.iconMapping r.1 r.2).flatten) :=
  -- the shipped icon names are inert; the binder's type is written out: left to unification, elaboration times out (`whnf`)
  safe_append (httpDirStart_safe name)
    (safe_flatten (fun r : Entry × Str => httpRow_safe (icons := Generated.iconMapping) (by decide +kernel) r.1 r.2) rows)

/-- a template with a slot in an unquoted attribute position is *rejected* by `slotsOk` -/
theorem unquoted_slot_rejected :
    slotsOk .text ([Seg.lit (lit "<A HREF="), .esc [], .lit (lit ">")].map Seg.shape) = false := by
  repeat rw [lit_ofList]
  decide +kernel

/-- ... and such a page really can be subverted: the data `x onclick=y` changes the skeleton -/
theorem unquoted_slot_subvertible :
    run .text (emit [Seg.lit (lit "<A HREF="), .esc (lit "x"), .lit (lit ">")]) ≠
    run .text (emit [Seg.lit (lit "<A HREF="), .esc (lit "x onclick=y"), .lit (lit ">")]) := by
  repeat rw [lit_ofList]
  decide +kernel

/-- the header block spelled out: the fixed status line, the formatted time, the MIME type.  The right-hand
    side is the body of `httpHeaders` and the proof is `rfl`; that no request data enters is read off the
    parameters of `httpHeaders`, and the statement does not express it. -/
theorem headers_lines (lm : Option Str) (ct : Str) :
    httpHeaders lm ct = lit "HTTP/1.0 200 OK\r\n" ++
      (match lm with | some t => lit "Last-Modified: " ++ t ++ [13,10] | none => []) ++
      lit "Content-Type: " ++ ct ++ [13,10,13,10] := rfl

/-- the lines of an attribute block: the header, then each content line behind one space -/
def eaBlockLines (k v : Str) : List Str :=
  ([43] ++ k ++ [58]) :: (splitlines v).map fun l => [32] ++ l

theorem eaBlock_lines (k v : Str) :
    eaBlock k v = ((eaBlockLines k v).map fun l => l ++ [13, 10]).flatten := by
  simp [eaBlock, eaBlockLines, lit, List.map_map, Function.comp_def]

/-- **Indented.** Every content line of an attribute block starts with a space and contains no
    line break, so no content line — whatever the sidecar file holds — can be read as a block
    header (`+NAME:`). -/
theorem gplus_content_lines_indented (k v : Str) :
    ∀ l ∈ (eaBlockLines k v).tail, l.head? = some 32 ∧ l.head? ≠ some 43 ∧ 10 ∉ l ∧ 13 ∉ l := by
  intro l hl
  obtain ⟨x, hx, rfl⟩ := List.mem_map.mp hl
  have := splitlines_no_break v x hx
  exact ⟨rfl, nofun, List.not_mem_cons_of_ne_of_not_mem (by decide) this.1,
    List.not_mem_cons_of_ne_of_not_mem (by decide) this.2⟩

example : emit (httpErrorSegs (lit "'/<b>\"' does not exist")) =
    lit "<!DOCTYPE HTML PUBLIC \"-//W3C//DTD HTML 4.0 Transitional//EN\" \"http://www.w3.org/TR/REC-html40/loose.dtd\">\n<HTML><HEAD><TITLE>Selector Not Found</TITLE>\n        <H1>Selector Not Found</H1>\n        <TT>&#x27;/&lt;b&gt;&quot;&#x27; does not exist</TT><HR>Pygopherd</BODY></HTML>\n" := by
  unfold httpErrorSegs
  repeat rw [lit_ofList]
  decide +kernel
example : eaBlockLines (lit "ABSTRACT") (lit "one\n+INFO: fake\r\nthree") =
    [lit "+ABSTRACT:", lit " one", lit " +INFO: fake", lit " three"] := by
  repeat rw [lit_ofList]
  decide +kernel

/-- text without TAB, CR, LF is left alone -/
theorem menuField_id (s : Str) (h : ∀ c ∈ s, c ≠ 9 ∧ c ≠ 13 ∧ c ≠ 10) : menuField s = s :=
  (List.map_congr_left fun c hc => if_neg fun e => e.elim (h c hc).1 fun e => e.elim (h c hc).2.1 (h c hc).2.2).trans
    (List.map_id s)

/-- **A menu line cannot be split by data.**  Whatever the entry's name,
    selector and host contain (a file may be called `a<CR><LF>+ADMIN:`), the line
    `GopherProtocol.renderobjinfo` writes — the `+INFO:` line of Gopher+ included — consists of the
    type, three fields free of TAB, CR and LF, the port's digits, and one final CR LF: between its
    first character and that CR LF there is no line break, provided the type has none (types
    come from one-line sources: a gophermap line's first character, a `Type=` line, the mapping).
    The statement speaks of CR and LF; that data adds no field (no TAB) is `menuField_clean` on each field. -/
theorem menu_line_is_one_line (srv : ServerId) (e : Entry) (line : Str) (h : gopher0Line srv e = some line)
    (ht : ∀ c ∈ e.type.getD (lit "0"), c ≠ 13 ∧ c ≠ 10) :
    ∃ body, line = body ++ [13, 10] ∧ ∀ c ∈ body, c ≠ 13 ∧ c ≠ 10 := by
  have mf (s : Str) : ∀ c ∈ menuField s, c ≠ 13 ∧ c ≠ 10 := fun c hc => (menuField_clean s c hc).2
  have hport : ∀ c ∈ portOf srv e, c ≠ 13 ∧ c ≠ 10 := by
    unfold portOf
    cases e.port with
    | none => exact fun c hc => by have := toDec_digits _ c hc; omega
    | some p => exact fun c hc => by have := toDecInt_chars p c hc; omega
  -- the terminator is the last two characters of either ending
  have hend : (if e.gplus = true then lit "\t+\r\n" else lit "\r\n") = (if e.gplus = true then [9, 43] else []) ++ [13, 10] := by
    rw [lit_ofList, lit_ofList]; cases e.gplus <;> rfl
  unfold gopher0Line at h
  split at h
  · cases h
  · obtain rfl := Option.some.inj h
    rw [hend, ← List.append_assoc]
    refine ⟨_, rfl, ?_⟩
    simp only [List.forall_mem_append, List.forall_mem_singleton]
    refine ⟨⟨⟨⟨⟨⟨⟨⟨ht, mf _⟩, by decide⟩, mf _⟩, by decide⟩, mf _⟩, by decide⟩, hport⟩, ?_⟩
    cases e.gplus <;> decide

end Pyg.Props.C13
