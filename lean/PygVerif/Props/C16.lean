import PygVerif.Model.Zip
import PygVerif.Lemmas.ZipTree
import PygVerif.Lemmas.ZipSite
/-!
# C16 — ZIP archives are transparent

Theorems about the archive index of `Model/Zip` (tied to the real `VFSZip` by the
correspondence check): every link entry of the index `buildIndex` returns points at a node,
and resolution leaves the nodes of the scan as they were; the flat node map behaves like a
dictionary; in an index without link entries, a node all of whose proper prefixes are
directory nodes is found at its own path (hypotheses on the index: that scanning a link-free,
conflict-free member list yields such an index, with each member's kind, is not proved here);
the archive seen as a file tree (`Model/ZipTree`) answers look-ups and — on good selectors —
dispatch, documents and plain directory listings as the extracted tree does.
-/
namespace Pyg.Props.C16
open Pyg Pyg.Zip

theorem kind_setNode (ix : Index) (p q : Path) (k : Zip.Kind) (hp : p ≠ []) :
    ({ ix with nodes := setNode ix.nodes p k } : Index).kind? q =
      if q = p then some k else ix.kind? q := by
  rw [Index.kind?, assoc_setNode]
  by_cases hq : q = []
  · rw [if_pos hq, if_neg (hq ▸ hp.symm), hq]; rfl
  · rw [if_neg hq, Index.kind?, if_neg hq]

/-- after `ensureDirs`, every non-empty prefix `pre ++ take (i+1) cs` exists -/
theorem ensureDirs_creates (nodes : List (Path × Zip.Kind)) (pre cs : Path) (i : Nat) (hi : i < cs.length) :
    ((ensureDirs nodes pre cs).find? (·.1 = pre ++ cs.take (i + 1))).isSome = true := by
  induction cs generalizing nodes pre i with
  | nil => simp at hi
  | cons c r ih =>
    rw [ensureDirs]
    cases i with
    | zero =>
      -- present after the first step, kept by the remaining ones
      have hp : (((addDirIfAbsent nodes (pre ++ [c])).find? (·.1 = pre ++ [c])).map (·.2)).isSome = true := by
        rw [assoc_addDirIfAbsent, Option.isSome_or, if_pos rfl, Option.isSome_some, Bool.or_true]
      rw [List.take_succ_cons, List.take_zero, ← Option.isSome_map (f := (·.2)), ensureDirs_keeps _ _ _ _ hp]
      exact hp
    | succ j =>
      rw [List.take_succ_cons, ← List.singleton_append, ← List.append_assoc]
      exact ih _ _ j (by simpa using hi)

theorem kind_alias_irrelevant (ix : Index) (a : List (Path × Path)) (p : Path) :
    ({ ix with aliases := a } : Index).kind? p = ix.kind? p := rfl

/-- **Symbolic links inside the archive resolve only to other members.** In the finished
    index every link entry points at a node the scan of the member list created (or at the
    archive root); resolution never adds, removes or changes a node.  (Which links get an entry —
    that a dangling, cyclic or climbing link gets none — is not in the statement; the second
    example below evaluates one such archive.) -/
theorem links_resolve_inside (ms : List Member) (ix : Index) (h : buildIndex ms = some ix) :
    AliasOk ix ∧ ix.nodes = (ms.foldl scanMember ({}, [])).1.nodes := by
  have h0 : AliasOk (ms.foldl scanMember ({}, [])).1 := by
    intro lt hlt
    rw [scan_aliases] at hlt
    cases hlt
  exact resolveAll_ok h0 h

/-- every look-up that succeeds, through links or not, lands on a node of the index (or the root) -/
theorem lookup_through_links_lands_inside (ms : List Member) (ix : Index) (h : buildIndex ms = some ix)
    (s : Str) (p : Path) (hl : lookup ix s = some p) : (ix.kind? p).isSome = true :=
  lookup_lands_on_node (links_resolve_inside ms ix h).1 hl

/-- **A member is found at its own path.** In an index without link entries, if every proper
    prefix of `p` is a directory node and `p` is a node, the walk for `p` succeeds at `p`:
    the archive shows the member where the extracted tree would. -/
theorem member_found_at_its_path (ix : Index) (hal : ix.aliases = []) (p : Path)
    (hdirs : ∀ i, i < p.length → ix.kind? (p.take i) = some .dir) (hp : (ix.kind? p).isSome = true) :
    Zip.walk ix [] p = some p :=
  walk_self ix p (fun _ _ => alias?_of_nil hal _) hdirs hp

/-- a path below a file does not exist (files have no children) -/
theorem nothing_below_a_file (ix : Index) (cur : Path) (o : Str) (c : Str) (cs : Path)
    (h : ix.kind? cur = some (.file o)) : Zip.walk ix cur (c :: cs) = none := by
  rw [walk_cons, h]; rfl

/-- `VfsKind` and `realOnlyGuard` are definitions of this file: they write down the guard of the mailbox, PYG and
    exec handlers (`type(self.vfs) is VFS_Real`, which only the real VFS passes).  Nothing else in the model or
    the driver mentions them, so `realonly_reject` restates the definition; that those handlers never act on archive
    members is checked on the real code only (`c16.py`, `C16:real-only-handler-acted`). -/
inductive VfsKind | real | zip deriving DecidableEq

def realOnlyGuard : VfsKind → Bool
  | .real => true
  | .zip => false

/-- the definition of `realOnlyGuard` at `.zip`, nothing more (see `VfsKind`) -/
theorem realonly_reject : realOnlyGuard .zip = false := rfl

/-! non-vacuity: the three-member archive of finding F19, in the order that used to fail -/
example : (buildIndex [⟨lit "dir/file.txt", lit "dir/file.txt", false, []⟩,
                       ⟨lit "link2", lit "link2", true, lit "link1/file.txt"⟩,
                       ⟨lit "link1", lit "link1", true, lit "dir"⟩]).map
    (fun ix => (kindAt ix (lit "link2"), kindAt ix (lit "link1/file.txt"), listdir ix (lit "link1"))) =
  some (some (.file (lit "dir/file.txt")), some (.file (lit "dir/file.txt")), some [lit "file.txt"]) := by
  rw [lit_ofList, lit_ofList, lit_ofList, lit_ofList, lit_ofList, lit_ofList]
  decide +kernel
/-- a dangling and a self-referential link are simply absent -/
example : (buildIndex [⟨lit "a", lit "a", false, []⟩, ⟨lit "d", lit "d", true, lit "nowhere"⟩,
                       ⟨lit "s", lit "s", true, lit "s"⟩]).map (fun ix => listdir ix []) = some (some [lit "a"]) := by
  rw [lit_ofList, lit_ofList, lit_ofList, lit_ofList]
  decide +kernel

/-- **Browsing into the archive is browsing the tree it stands for** (`T`, the index unfolded
    deeper than the path is long — what extracting the archive puts on disk, with every resolved
    link standing for its destination).  For every archive-internal path whose components are
    neither empty nor `.`: where `VFSZip` finds nothing the tree has nothing (same not-found
    answers); where it finds a directory the tree has a directory whose member names are what
    `listdir` returns, in the same order (same listings); where it finds a file member the tree
    has a file with that member's bytes (same documents).  Resolved links are followed exactly
    as the kernel follows them in the extracted tree (`lwalk` descends into the destination). -/
theorem archive_answers_as_extracted_tree (ix : Index) (data : Str → Bytes) (s : Str) (hs : s ≠ [])
    (hclean : ∀ c ∈ splitOn 47 s, c ≠ [] ∧ c ≠ [46]) (fuel : Nat) (hf : (splitOn 47 s).length + 1 < fuel) :
    match lookup ix s with
    | none => lwalk (toTree ix data fuel []) (splitOn 47 s) = none
    | some t => ∃ n, lwalk (toTree ix data fuel []) (splitOn 47 s) = some n ∧
        (ix.kind? t = some .dir → n.names = some (names ix t)) ∧
        (∀ o, ix.kind? t = some (.file o) → n = .file (data o)) := by
  obtain ⟨k, rfl⟩ : ∃ k, fuel = (splitOn 47 s).length + (k + 1) := ⟨fuel - (splitOn 47 s).length - 1, by omega⟩
  rw [lookup_of_ne_nil ix hs, Zip.lwalk_toTree ix data _ _ [] (by omega) hclean, Nat.add_sub_cancel_left]
  cases Zip.walk ix [] (splitOn 47 s) with
  | none => rfl
  | some t => exact ⟨_, rfl, names_toTree ix data k, fun o => toTree_of_file ix data k⟩

/-- **A link-free archive stands for one finite tree.**  If no member path is longer than `D`,
    unfolding deeper than `D + 1` changes nothing: `toTree ix data (D + 1) []` is *the* extracted
    tree, and `archive_answers_as_extracted_tree` holds for it at every depth (`k` levels suffice
    below a node at depth `p.length` once `p.length + k > D`). -/
theorem toTree_saturates (ix : Index) (data : Str → Bytes) (hal : ix.aliases = []) (D : Nat)
    (hD : ∀ q ∈ ix.nodes, q.1.length ≤ D) :
    ∀ (k f : Nat) (p : Path), D + 1 ≤ p.length + k → k ≤ f → toTree ix data f p = toTree ix data k p := by
  intro k
  induction k with
  | zero =>
    intro f p hp _
    cases f with
    | zero => rfl
    | succ f =>
      -- `p` is longer than every member path, so not one
      refine toTree_of_none ix data f (Option.not_isSome_iff_eq_none.mp fun h => ?_)
      obtain ⟨kd, hm⟩ := (kind?_isSome_iff (by rintro rfl; cases hp)).mp h
      exact absurd (hD _ hm) (Nat.not_le.mpr hp)
  | succ k ih =>
    intro f p hp hkf
    cases f with
    | zero => exact absurd hkf (Nat.not_succ_le_zero k)
    | succ f =>
      have hc (c : Str) : D + 1 ≤ (p ++ [c]).length + k := by
        rw [List.length_append, List.length_singleton, Nat.add_assoc, Nat.add_comm 1 k]; exact hp
      rw [toTree, toTree]
      split
      · refine congrArg Node.dir (filterMap_congr fun c _ => ?_)
        rw [child_of_no_alias hal]
        split
        · rw [Option.map_some, Option.map_some, ih f (p ++ [c]) (hc c) (Nat.le_of_succ_le_succ hkf)]
        · rfl
      · rfl
      · rfl

/-- non-vacuity of the saturation hypothesis, and the unfolding is indeed stable there -/
example : (buildIndex [⟨lit "dir/file.txt", lit "dir/file.txt", false, []⟩, ⟨lit "a", lit "a", false, []⟩]).map
    (fun ix => (ix.aliases.isEmpty, ix.nodes.all (fun q => decide (q.1.length ≤ 2)),
      (lwalk (toTree ix (fun o => o) 3 []) [lit "dir", lit "file.txt"]).bind Node.fileData,
      (lwalk (toTree ix (fun o => o) 9 []) [lit "dir", lit "file.txt"]).bind Node.fileData)) =
  some (true, true, some (lit "dir/file.txt"), some (lit "dir/file.txt")) := by
  rw [lit_ofList, lit_ofList, lit_ofList, lit_ofList]
  decide +kernel

/-- selectors that are not below the archive are not the archive's to answer: the view hands
    them to the underlying file system unchanged (an absolute selector in a gophermap member
    means the site's object, as it does once the archive is extracted) -/
theorem outside_selectors_are_the_file_systems (ix : Index) (data : Str → Bytes) (fuel : Nat) (zipSel : Str)
    (chain : StatFn) (sel : Str) (h : inArchive zipSel sel = false) :
    zipStat ix data fuel zipSel chain sel = chain sel := by
  unfold zipStat; simp [h]

/-- and no member can answer for them, whatever its name: the answer does not depend on the index -/
theorem outside_selectors_ignore_the_members (ix ix' : Index) (data data' : Str → Bytes) (fuel fuel' : Nat) (zipSel : Str)
    (chain : StatFn) (sel : Str) (h : inArchive zipSel sel = false) :
    zipStat ix data fuel zipSel chain sel = zipStat ix' data' fuel' zipSel chain sel := by
  rw [outside_selectors_are_the_file_systems _ _ _ _ _ _ h, outside_selectors_are_the_file_systems _ _ _ _ _ _ h]

/-- a selector that merely starts with the archive's name (`/a.zipper/x`), or is as long as one below it
    (`/other/ta.txt`), is not below it -/
example : inArchive (lit "/a.zip") (lit "/a.zipper/x") = false ∧ inArchive (lit "/a.zip") (lit "/other/ta.txt") = false ∧
    inArchive (lit "/a.zip") (lit "/a.zip") = true ∧ inArchive (lit "/a.zip") (lit "/a.zip/ta.txt") = true := by
  rw [lit_ofList, lit_ofList, lit_ofList, lit_ofList]
  decide

/-- non-vacuity: an archive with a link, browsed through the link, as a tree -/
example : (buildIndex [⟨lit "dir/file.txt", lit "dir/file.txt", false, []⟩,
                       ⟨lit "link1", lit "link1", true, lit "dir"⟩]).map
    (fun ix => ((lwalk (toTree ix (fun o => o) 4 []) [lit "link1", lit "file.txt"]).bind Node.fileData,
                (lwalk (toTree ix (fun o => o) 4 []) [lit "link1"]).bind Node.names,
                (toTree ix (fun o => o) 4 []).names)) =
  some (some (lit "dir/file.txt"), some [lit "file.txt"], some [lit "dir", lit "link1"]) := by
  rw [lit_ofList, lit_ofList, lit_ofList, lit_ofList]
  decide +kernel

/-- **Browsing into the archive is browsing the extracted tree — through the handlers.**
    `T = toTree ix data F []` is the tree the archive stands for (`hsat`: saturated, as
    `toTree_saturates` shows for link-free archives); `R` is a document root holding `T` at
    the archive's selector `Z`, and equal to the underlying file system elsewhere.  For every
    good selector (`/a/b/c`) and every configuration whose sidecar extensions are `ExtOk`:

    * the same handler claims it (`dispatch`), so the same not-found answers;
    * the same document bytes are served (`serve`);
    * a plain directory listing has the same entries — members, their types, sizes, names,
      sidecar abstracts, `.cap` overrides and link files all come out of the same `Child`
      records (`siteEntries`, whatever `dirListing` does with them) — provided the directories
      the archive's view shows hold valid names only (`hnames`). -/
theorem archive_browsing_equals_extracted_tree (ix : Index) (data : Str → Bytes) (F : Nat)
    (hsat : ∀ f t, F ≤ f → toTree ix data f t = toTree ix data F t)
    (Z : Str) (hZ : Good Z) (R : Node) (hR : lwalk R (splitOn 47 Z) = some (toTree ix data F []))
    (chain : StatFn) (hout : ∀ p, Good p → inArchive Z p = false → chain p = treeStat R p)
    (c : SiteCfg) (hext : ∀ e ∈ c.eaexts, ExtOk e.1)
    (hnames : ∀ p ks, zipStat ix data F Z chain p = some (.dir ks) → ∀ nk ∈ ks, validName nk.1 = true)
    (sel : Str) (hs : Good sel) :
    dispatch c (zipStat ix data F Z chain) sel = dispatch c (treeStat R) sel ∧
    serve c (zipStat ix data F Z chain) sel = serve c (treeStat R) sel ∧
    (dispatch c (zipStat ix data F Z chain) sel = .dir →
      siteEntries c (zipStat ix data F Z chain) sel = siteEntries c (treeStat R) sel) := by
  have hag := zip_view_agrees ix data F hsat Z hZ R hR chain hout
  exact ⟨dispatchG hag c sel hs, serveG hag c sel hs, fun hd => dirEntriesG hag c hext hnames sel hs hd⟩

/-- the same for link-free archives, whose tree needs no saturation hypothesis: it is `toTree … (D + 1) []`
    for any bound `D` on the length of member paths -/
theorem linkfree_archive_browsing_equals_extracted_tree (ix : Index) (data : Str → Bytes) (hal : ix.aliases = []) (D : Nat)
    (hD : ∀ q ∈ ix.nodes, q.1.length ≤ D)
    (Z : Str) (hZ : Good Z) (R : Node) (hR : lwalk R (splitOn 47 Z) = some (toTree ix data (D + 1) []))
    (chain : StatFn) (hout : ∀ p, Good p → inArchive Z p = false → chain p = treeStat R p)
    (c : SiteCfg) (hext : ∀ e ∈ c.eaexts, ExtOk e.1)
    (hnames : ∀ p ks, zipStat ix data (D + 1) Z chain p = some (.dir ks) → ∀ nk ∈ ks, validName nk.1 = true)
    (sel : Str) (hs : Good sel) :
    dispatch c (zipStat ix data (D + 1) Z chain) sel = dispatch c (treeStat R) sel ∧
    serve c (zipStat ix data (D + 1) Z chain) sel = serve c (treeStat R) sel ∧
    (dispatch c (zipStat ix data (D + 1) Z chain) sel = .dir →
      siteEntries c (zipStat ix data (D + 1) Z chain) sel = siteEntries c (treeStat R) sel) :=
  archive_browsing_equals_extracted_tree ix data (D + 1)
    (fun f t hf => toTree_saturates ix data hal D hD (D + 1) f t (by omega) hf) Z hZ R hR chain hout c hext hnames sel hs

/-- the view `treeStat` is `VFS_Real.stat` for every selector `os.fsencode` accepts -/
theorem treeStat_is_statAt (R : Node) (sel : Str) (h : (encodeSE sel).isSome = true) : statAt R sel = treeStat R sel := by
  unfold statAt treeStat
  have : (encodeSE sel).isNone = false := by cases he : encodeSE sel <;> simp_all
  simp [this]

/-- non-vacuity: `/a.zip/dir/file.txt` is a good selector below the good archive selector `/a.zip` -/
example : Good (lit "/a.zip") ∧ Good (lit "/a.zip/dir/file.txt") ∧ inArchive (lit "/a.zip") (lit "/a.zip/dir/file.txt") = true := by
  rw [lit_ofList, lit_ofList]
  unfold Good
  decide +kernel

end Pyg.Props.C16
