import PygVerif.Generated
import PygVerif.Lemmas.Collect
import PygVerif.Lemmas.Doc
import PygVerif.Lemmas.EntryFrame
import PygVerif.Lemmas.Escape
import PygVerif.Lemmas.Frame
import PygVerif.Lemmas.Init
import PygVerif.Lemmas.LinkFile
import PygVerif.Lemmas.List
import PygVerif.Lemmas.Log
import PygVerif.Lemmas.Proto
import PygVerif.Lemmas.Selector
import PygVerif.Lemmas.Site
import PygVerif.Lemmas.SiteCongr
import PygVerif.Lemmas.SiteGood
import PygVerif.Lemmas.SiteServe
import PygVerif.Lemmas.Skel
import PygVerif.Lemmas.Str
import PygVerif.Lemmas.TalBasics
import PygVerif.Lemmas.TalRefine
import PygVerif.Lemmas.TalSafety
import PygVerif.Lemmas.TalSem
import PygVerif.Lemmas.ZipSite
import PygVerif.Lemmas.ZipTree
import PygVerif.Model.Cache
import PygVerif.Model.Conc
import PygVerif.Model.Doc
import PygVerif.Model.Entry
import PygVerif.Model.Escape
import PygVerif.Model.Fail
import PygVerif.Model.Frame
import PygVerif.Model.Gophermap
import PygVerif.Model.Include
import PygVerif.Model.Init
import PygVerif.Model.Listing
import PygVerif.Model.Log
import PygVerif.Model.Metal
import PygVerif.Model.Proto
import PygVerif.Model.Render
import PygVerif.Model.Selector
import PygVerif.Model.Serve
import PygVerif.Model.Site
import PygVerif.Model.Skel
import PygVerif.Model.Str
import PygVerif.Model.Tal
import PygVerif.Model.Umn
import PygVerif.Model.Zip
import PygVerif.Model.ZipTree
import PygVerif.Props.C01
import PygVerif.Props.C02
import PygVerif.Props.C03
import PygVerif.Props.C04
import PygVerif.Props.C05
import PygVerif.Props.C06
import PygVerif.Props.C07
import PygVerif.Props.C08
import PygVerif.Props.C09
import PygVerif.Props.C10
import PygVerif.Props.C11
import PygVerif.Props.C12
import PygVerif.Props.C13
import PygVerif.Props.C14
import PygVerif.Props.C15
import PygVerif.Props.C16
import PygVerif.Props.C17
import PygVerif.Props.C18
import PygVerif.Props.C19
import PygVerif.Props.C20
